/-
  The instruction sequences of `QbeSem.expectedSeq` compute, on canonical temporaries, the canonical temporary of the
  source-level result (C01, C02, C09). A temporary of class `c` holds a value modulo `2 ^ c.bits`, so arithmetic is exact
  modulo the class width; all an 8/16-bit type adds is the re-normalisation behind the operation (`exec_renorm`).
-/
import FerretVerif.Model.QbeSem
import FerretVerif.Proofs.TwoPow

namespace FerretVerif.QbeSem

def legalTys : List Ty := [⟨8, true⟩, ⟨16, true⟩, ⟨32, true⟩, ⟨64, true⟩, ⟨8, false⟩, ⟨16, false⟩, ⟨32, false⟩, ⟨64, false⟩]
def signedTys : List Ty := [⟨8, true⟩, ⟨16, true⟩, ⟨32, true⟩, ⟨64, true⟩]
def cmpOps : List String := ["eq", "ne", "lt", "le", "gt", "ge"]

theorem p32 : ((2 ^ 32 : Nat) : Int) = 4294967296 := by decide
theorem p64 : ((2 ^ 64 : Nat) : Int) = 18446744073709551616 := by decide

theorem legal_bits {t : Ty} (ht : t ∈ legalTys) : 1 ≤ t.bits ∧ t.bits ≤ t.cls.bits := by
  simp only [legalTys, List.mem_cons, List.mem_nil_iff, or_false] at ht
  rcases ht with rfl | rfl | rfl | rfl | rfl | rfl | rfl | rfl <;> decide

/-! ### patterns: a temporary holds a value modulo the class width (`pat`: the same notion as `Core.upat`) -/

theorem pat_cast (c : Cls) (v : Int) : (pat c v : Int) = v % ((2 ^ c.bits : Nat) : Int) :=
  Int.toNat_of_nonneg (Int.emod_nonneg v (Int.ne_of_gt (pow2_pos _)))

theorem pat_lt (c : Cls) (v : Int) : pat c v < 2 ^ c.bits :=
  Int.ofNat_lt.mp (pat_cast c v ▸ Int.emod_lt_of_pos v (pow2_pos _))

theorem pat_cast_of_lt (c : Cls) (v : Int) (h0 : 0 ≤ v) (h1 : v < ((2 ^ c.bits : Nat) : Int)) : (pat c v : Int) = v := by
  rw [pat_cast, Int.emod_eq_of_lt h0 h1]

theorem pat_natCast (c : Cls) {n : Nat} (h : n < 2 ^ c.bits) : pat c (n : Int) = n :=
  Int.ofNat_inj.mp (pat_cast_of_lt c n (Int.natCast_nonneg n) (Int.ofNat_lt.mpr h))

theorem pat_congr {c : Cls} {a b : Int} (h : a % ((2 ^ c.bits : Nat) : Int) = b % ((2 ^ c.bits : Nat) : Int)) :
    pat c a = pat c b := by
  unfold pat; rw [h]

theorem pat_add (c : Cls) (a b : Int) : pat c ((pat c a : Int) + pat c b) = pat c (a + b) :=
  pat_congr (by rw [pat_cast, pat_cast, Int.emod_add_emod, Int.add_emod_emod])

theorem pat_sub (c : Cls) (a b : Int) : pat c ((pat c a : Int) - pat c b) = pat c (a - b) :=
  pat_congr (by rw [pat_cast, pat_cast, Int.emod_sub_emod, Int.sub_emod_emod])

theorem pat_mul (c : Cls) (a b : Int) : pat c ((pat c a : Int) * pat c b) = pat c (a * b) :=
  pat_congr (by rw [pat_cast, pat_cast, ← Int.mul_emod])

/-- the cast zero is the operand `.lit 0` of `sub` as `evalOp` receives it -/
theorem pat_neg (c : Cls) (a : Int) : pat c (((0 : Nat) : Int) - pat c a) = pat c (-a) :=
  pat_congr (by rw [pat_cast, Int.sub_emod_emod, Int.natCast_zero, Int.zero_sub])

/-- `w copy` of an `l` value; idempotence when `c = c'` -/
theorem pat_pat {c c' : Cls} (h : c.bits ≤ c'.bits) (v : Int) : pat c (pat c' v) = pat c v :=
  pat_congr (by rw [pat_cast, Int.emod_emod_of_dvd v (pow2_dvd h)])

theorem pat_mod (c : Cls) {b : Nat} (hb : b ≤ c.bits) (v : Int) : pat c v % 2 ^ b = pat c (v % ((2 ^ b : Nat) : Int)) := by
  apply Int.ofNat_inj.mp
  rw [Int.natCast_emod, pat_cast, pat_cast, Int.emod_emod_of_dvd v (pow2_dvd hb),
    Int.emod_eq_of_lt (Int.emod_nonneg v (Int.ne_of_gt (pow2_pos b)))
      (Int.lt_of_lt_of_le (Int.emod_lt_of_pos v (pow2_pos b)) (pow2_le hb))]

/-! ### wrapping -/

theorem Ty.wrap_emod (t : Ty) (v : Int) : t.wrap v % ((2 ^ t.bits : Nat) : Int) = v % ((2 ^ t.bits : Nat) : Int) :=
  FerretVerif.wrap_emod

theorem wrap_of_inRange {t : Ty} (h1 : 1 ≤ t.bits) {v : Int} (hv : t.inRange v) : t.wrap v = v := by
  unfold Ty.inRange Ty.lo Ty.hi at hv
  cases hs : t.signed <;> simp only [Ty.wrap, hs, if_true, if_false, Bool.false_eq_true, Bool.false_and, Bool.true_and,
    decide_eq_true_eq] at hv ⊢
  · exact Int.emod_eq_of_lt (by omega) (by omega)
  · exact wrap_id (pow2_half h1) hv.1 (by omega)

theorem pat_wrap_full {t : Ty} (h : t.cls.bits = t.bits) (v : Int) : pat t.cls (t.wrap v) = pat t.cls v :=
  pat_congr (h ▸ t.wrap_emod v)

/-! ### readings: the value a temporary denotes -/

/-- `sxk k` is the signed reading of a `k`-bit memory cell (`memLoad`); `sx c` is the case `k = c.bits` -/
theorem sxk_mod (c : Cls) {k : Nat} (hk : k ≤ c.bits) (v : Int) : sxk k (pat c v % 2 ^ k) = (⟨k, true⟩ : Ty).wrap v := by
  have hc : (pat c (v % ((2 ^ k : Nat) : Int)) : Int) = v % ((2 ^ k : Nat) : Int) :=
    pat_cast_of_lt c _ (Int.emod_nonneg v (Int.ne_of_gt (pow2_pos k)))
      (Int.lt_of_lt_of_le (Int.emod_lt_of_pos v (pow2_pos k)) (pow2_le hk))
  rw [pat_mod c hk]
  simp only [sxk, Ty.wrap, Bool.true_and, decide_eq_true_eq, ge_iff_le, ← Int.ofNat_le (n := pat c _), hc]

theorem sx_pat (c : Cls) (v : Int) : sx c (pat c v) = (⟨c.bits, true⟩ : Ty).wrap v := by
  have := sxk_mod c (Nat.le_refl _) v  -- `sx c` unfolds to `sxk c.bits`
  rwa [Nat.mod_eq_of_lt (pat_lt c v)] at this

/-- the integer a temporary denotes at type `t` -/
def Ty.read (t : Ty) (x : Nat) : Int := if t.signed then sx t.cls x else x

/-- the values of the type are in the range of the class, where wrapping does nothing -/
theorem read_canon {t : Ty} (ht : t ∈ legalTys) {v : Int} (hv : t.inRange v) : t.read (canon t v) = v := by
  obtain ⟨h1, h2⟩ := legal_bits ht
  have hp := pow2_le (show t.bits - 1 ≤ t.cls.bits - 1 by omega)
  have hq := pow2_le h2
  unfold Ty.inRange Ty.lo Ty.hi at hv
  unfold Ty.read canon
  cases hs : t.signed <;> simp only [hs, if_true, if_false, Bool.false_eq_true] at hv ⊢
  · exact pat_cast_of_lt _ _ (by omega) (by omega)
  · rw [sx_pat]
    exact wrap_of_inRange (t := ⟨t.cls.bits, true⟩) (by show 1 ≤ t.cls.bits; omega)
      (show -((2 ^ (t.cls.bits - 1) : Nat) : Int) ≤ v ∧ v ≤ ((2 ^ (t.cls.bits - 1) : Nat) : Int) - 1 from ⟨by omega, by omega⟩)

theorem canon_inj {t : Ty} (ht : t ∈ legalTys) {a b : Int} (ha : t.inRange a) (hb : t.inRange b) :
    canon t a = canon t b ↔ a = b :=
  ⟨fun h => by rw [← read_canon ht ha, h, read_canon ht hb], congrArg _⟩

/-! ### running a sequence -/

theorem exec_cons {params tmps : List Nat} {i : Ins} {x y r : Nat} (rest : List Ins) (hx : argVal params tmps i.a = some x)
    (hy : argVal params tmps i.b = some y) (hr : evalOp i.cls i.op x y = some r) :
    exec params tmps (i :: rest) = exec params (tmps ++ [r]) rest := by
  simp only [exec, hx, hy, hr, Option.bind_eq_bind, Option.bind_some]

theorem argVal_tmp_last (params tmps : List Nat) (r : Nat) : argVal params (tmps ++ [r]) (.tmp tmps.length) = some r := by
  simp [argVal]

/-! ### re-normalisation of a temporary to the type -/

/-- `shl k; sar k`, `k = c.bits - b`: the shift leaves `(v % 2^b) * 2^k`, whose sign bit is that of the `b`-bit value, and
    the arithmetic shift divides by `2^k` again -/
theorem shl_sar (c : Cls) {b : Nat} (h1 : 1 ≤ b) (h2 : b ≤ c.bits) (v : Int) :
    sx c (pat c ((pat c v : Int) * ((2 ^ (c.bits - b) : Nat) : Int))) / ((2 ^ (c.bits - b) : Nat) : Int)
      = (⟨b, true⟩ : Ty).wrap v := by
  have hK := pow2_pos (c.bits - b)
  have hM : ((2 ^ c.bits : Nat) : Int) = ((2 ^ (c.bits - b) : Nat) : Int) * ((2 ^ b : Nat) : Int) := by
    rw [← Int.natCast_mul, ← Nat.pow_add, Nat.sub_add_cancel h2]
  have hx : (pat c ((pat c v : Int) * ((2 ^ (c.bits - b) : Nat) : Int)) : Int)
      = ((2 ^ (c.bits - b) : Nat) : Int) * (v % ((2 ^ b : Nat) : Int)) := by
    rw [pat_cast, pat_cast, Int.mul_comm, hM, Int.mul_emod_mul_of_pos _ _ hK, ← hM, Int.emod_emod_of_dvd v (pow2_dvd h2)]
  have hsign : pat c ((pat c v : Int) * ((2 ^ (c.bits - b) : Nat) : Int)) ≥ 2 ^ (c.bits - 1)
      ↔ v % ((2 ^ b : Nat) : Int) ≥ ((2 ^ (b - 1) : Nat) : Int) := by
    have hH : ((2 ^ (c.bits - 1) : Nat) : Int) = ((2 ^ (c.bits - b) : Nat) : Int) * ((2 ^ (b - 1) : Nat) : Int) := by
      rw [← Int.natCast_mul, ← Nat.pow_add, show c.bits - b + (b - 1) = c.bits - 1 by omega]
    rw [ge_iff_le, ← Int.ofNat_le, hx, hH, Int.mul_le_mul_left hK]
  simp only [sx, Ty.wrap, Bool.true_and, decide_eq_true_eq]
  by_cases hs : v % ((2 ^ b : Nat) : Int) ≥ ((2 ^ (b - 1) : Nat) : Int)
  · rw [if_pos (hsign.mpr hs), if_pos hs, hx, hM, ← Int.mul_sub, Int.mul_comm, Int.mul_ediv_cancel _ (Int.ne_of_gt hK)]
  · rw [if_neg (fun h => hs (hsign.mp h)), if_neg hs, hx, Int.mul_comm, Int.mul_ediv_cancel _ (Int.ne_of_gt hK)]

theorem and_mask (c : Cls) {b : Nat} (hb : b ≤ c.bits) (v : Int) :
    Nat.land (pat c v) (2 ^ b - 1) = pat c ((⟨b, false⟩ : Ty).wrap v) :=
  (Nat.and_two_pow_sub_one_eq_mod _ b).trans (pat_mod c hb v)

/-- 32- and 64-bit types fill their class and `renorm` is empty, so the value has to be the last temporary already -/
theorem exec_renorm {t : Ty} (ht : t ∈ legalTys) (params tmps : List Nat) (src : Arg) (v : Int)
    (hsrc : argVal params tmps src = some (pat t.cls v)) (hlast : 32 ≤ t.bits → tmps.getLast? = some (pat t.cls v)) :
    exec params tmps (renorm t src tmps.length) = some (canon t (t.wrap v)) := by
  obtain ⟨b, s⟩ := t
  obtain ⟨h1, h2⟩ : 1 ≤ b ∧ b ≤ (Ty.cls ⟨b, s⟩).bits := legal_bits ht
  unfold renorm canon
  by_cases hw : b ≥ 32
  · have hc : (Ty.cls ⟨b, s⟩).bits = b := by
      by_cases h64 : b = 64
      · subst h64; rfl
      · have hcw : Ty.cls ⟨b, s⟩ = .w := if_neg h64
        rw [hcw] at h2 ⊢; exact Nat.le_antisymm hw h2
    rw [if_pos hw, pat_wrap_full hc]; exact hlast hw
  · have hcw : Ty.cls ⟨b, s⟩ = .w := if_neg (show ¬ b = 64 by omega)
    have hk : (32 - b) % Cls.w.bits = Cls.w.bits - b := show (32 - b) % 32 = 32 - b by omega
    rw [hcw] at hsrc h2 ⊢
    rw [if_neg hw]
    cases s
    · rw [if_neg Bool.false_ne_true, exec_cons [] hsrc rfl rfl, exec, List.getLast?_concat, and_mask .w h2]
    · rw [if_pos rfl, exec_cons _ hsrc rfl rfl, exec_cons [] (argVal_tmp_last _ _ _) rfl rfl, exec, List.getLast?_concat,
        hk, shl_sar .w h1 h2]

theorem exec_op_renorm {t : Ty} (ht : t ∈ legalTys) {params : List Nat} {i : Ins} {x y : Nat} {v : Int}
    (hx : argVal params [] i.a = some x) (hy : argVal params [] i.b = some y)
    (hr : evalOp i.cls i.op x y = some (pat t.cls v)) :
    exec params [] (i :: renorm t (.tmp 0) 1) = some (canon t (t.wrap v)) := by
  rw [exec_cons _ hx hy hr]
  exact exec_renorm ht params [pat t.cls v] (.tmp 0) v rfl (fun _ => rfl)

/-! ### the machine operations on canonical operands -/

theorem tmod_inRange {t : Ty} {a : Int} (b : Int) (ha : t.inRange a) : t.inRange (Int.tmod a b) := by
  have hle := natAbs_tmod_le a b
  have hsign : (0 ≤ a → 0 ≤ Int.tmod a b) ∧ (a ≤ 0 → Int.tmod a b ≤ 0) := ⟨Int.tmod_nonneg b, tmod_nonpos b⟩
  have hp := pow2_pos (t.bits - 1)
  have hq := pow2_pos t.bits
  unfold Ty.inRange Ty.lo Ty.hi at *
  cases hs : t.signed <;> simp only [hs, if_true, if_false, Bool.false_eq_true] at ha ⊢ <;> omega

theorem divrem_correct {t : Ty} (ht : t ∈ legalTys) {a b : Int} (ha : t.inRange a) (hb : t.inRange b) (hz : b ≠ 0)
    (hno : ¬ (t.signed = true ∧ overflows t a b)) :
    evalOp t.cls (if t.signed then "div" else "udiv") (canon t a) (canon t b) = some (pat t.cls (Int.tdiv a b)) ∧
    evalOp t.cls (if t.signed then "rem" else "urem") (canon t a) (canon t b) = some (pat t.cls (Int.tmod a b)) := by
  have ra := read_canon ht ha
  have rb := read_canon ht hb
  unfold Ty.read at ra rb
  cases hs : t.signed <;> simp only [hs, if_true, if_false, Bool.false_eq_true] at ra rb ⊢
  · have hx : canon t a < 2 ^ t.cls.bits := pat_lt t.cls a
    generalize canon t a = x at ra hx ⊢
    generalize canon t b = y at rb ⊢
    subst ra rb
    have hy : y ≠ 0 := fun h => hz (congrArg _ h)
    exact ⟨(if_neg hy).trans (congrArg some (pat_natCast _ (Nat.lt_of_le_of_lt (Nat.div_le_self _ _) hx)).symm),
      (if_neg hy).trans (congrArg some (pat_natCast _ (Nat.lt_of_le_of_lt (Nat.mod_le _ _) hx)).symm)⟩
  · have htrap : ¬ (sx t.cls (canon t b) = 0 ∨ divTraps t.cls (canon t a) (canon t b)) := by
      unfold divTraps; rw [ra, rb]
      rintro (h | ⟨h1, h2⟩)
      · exact hz h
      · -- the quotient traps at the class width only: a type that holds MIN of its class fills the class
        obtain ⟨hb1, hb2⟩ := legal_bits ht
        have hlo := ha.1
        simp only [Ty.lo, hs, if_true] at hlo
        have hle : t.cls.bits - 1 ≤ t.bits - 1 :=
          (Nat.pow_le_pow_iff_right (by decide : 1 < 2)).mp (Int.ofNat_le.mp (by omega))
        have hbc : t.bits = t.cls.bits := by omega
        refine hno ⟨hs, ?_, ?_, h2⟩
        · rw [hbc]; cases t.cls <;> decide
        · simp only [Ty.lo, hs, if_true, hbc, h1]
    exact ⟨(if_neg htrap).trans (by rw [ra, rb]), (if_neg htrap).trans (by rw [ra, rb])⟩

/-- the middle conjunct: `rem` rows have no re-normalisation, so `row_correct` needs the remainder in range as it is -/
theorem binOp_correct {t : Ty} (ht : t ∈ legalTys) {op o : String} (ho : binOpcode op t = some o) {a b w : Int}
    (ha : t.inRange a) (hb : t.inRange b) (hw : specBin op t a b = some w)
    (hno : ¬ ((op = "div" ∨ op = "rem") ∧ t.signed = true ∧ overflows t a b)) :
    ∃ u, w = t.wrap u ∧ (op = "rem" → t.inRange u) ∧ evalOp t.cls o (canon t a) (canon t b) = some (pat t.cls u) := by
  unfold specBin at hw
  split at hw
  · obtain rfl : "add" = o := Option.some.inj ho
    exact ⟨a + b, (Option.some.inj hw).symm, fun h => absurd h (by decide), congrArg some (pat_add t.cls a b)⟩
  · obtain rfl : "sub" = o := Option.some.inj ho
    exact ⟨a - b, (Option.some.inj hw).symm, fun h => absurd h (by decide), congrArg some (pat_sub t.cls a b)⟩
  · obtain rfl : "mul" = o := Option.some.inj ho
    exact ⟨a * b, (Option.some.inj hw).symm, fun h => absurd h (by decide), congrArg some (pat_mul t.cls a b)⟩
  · split at hw
    · cases hw
    · rename_i hz
      obtain rfl : (if t.signed then "div" else "udiv") = o := Option.some.inj ho
      exact ⟨Int.tdiv a b, (Option.some.inj hw).symm, fun h => absurd h (by decide),
        (divrem_correct ht ha hb hz (fun h => hno ⟨.inl rfl, h⟩)).1⟩
  · split at hw
    · cases hw
    · rename_i hz
      obtain rfl : (if t.signed then "rem" else "urem") = o := Option.some.inj ho
      exact ⟨Int.tmod a b, (Option.some.inj hw).symm, fun _ => tmod_inRange b ha,
        (divrem_correct ht ha hb hz (fun h => hno ⟨.inr rfl, h⟩)).2⟩
  · cases hw

/-- `cmpOpcode` picks the opcode that reads both operands the way the type does (signed or unsigned, `w` or `l`) -/
theorem cmp_correct {t : Ty} (ht : t ∈ legalTys) {op o : String} (ho : cmpOpcode op t = some o) {a b : Int}
    (ha : t.inRange a) (hb : t.inRange b) : evalOp .w o (canon t a) (canon t b) = specCmp op a b := by
  have hinj := canon_inj ht ha hb
  have ra := read_canon ht ha
  have rb := read_canon ht hb
  generalize canon t a = x at hinj ra ⊢
  generalize canon t b = y at hinj rb ⊢
  subst ra rb
  obtain ⟨bits, s⟩ := t
  unfold cmpOpcode at ho
  unfold Ty.read Ty.cls at *
  -- the `show` makes `evalOp`'s match on the opcode string reduce by unfolding, far cheaper than `simp` with its equations
  by_cases h64 : bits = 64 <;> cases s <;>
    simp only [h64, decide_true, decide_false, if_true, if_false, Bool.false_eq_true] at ho hinj ⊢ <;>
    split at ho <;> cases ho <;> (show some (ite _ _ _) = some (ite _ _ _)) <;>
    simp only [hinj, Int.ofNat_lt, Int.ofNat_le, ge_iff_le, gt_iff_lt]

theorem ext_correct {s : Ty} (hs : s ∈ legalTys) (hw : s.cls = .w) {v : Int} (hv : s.inRange v) :
    evalOp .l (if s.signed then "extsw" else "extuw") (canon s v) 0 = some (pat .l v) := by
  have rv := read_canon hs hv
  have hx : canon s v < 2 ^ Cls.l.bits :=
    Nat.lt_of_lt_of_le (pat_lt s.cls v) (Nat.pow_le_pow_right (by decide) (by rw [hw]; decide))
  unfold Ty.read at rv
  rw [hw] at rv
  generalize canon s v = x at rv hx ⊢
  subst rv
  cases s.signed
  · exact congrArg some (pat_natCast .l hx).symm
  · rfl

/-! ### every row of a known shape computes its specification -/

theorem cast_correct {s d : Ty} (hs : s ∈ legalTys) (hd : d ∈ legalTys) {seq : List Ins} (op : String)
    (hok : expectedSeq .cast op s d = some seq) {v : Int} (hv : s.inRange v) :
    exec [canon s v] [] seq = some (canon d (d.wrap v)) := by
  have hsc : s.bits ≠ 64 → s.cls = .w := fun h => if_neg h
  have hsl : s.bits = 64 → s.cls = .l := fun h => if_pos h
  unfold expectedSeq at hok
  simp only [pure] at hok
  split at hok
  · -- to 64 bits
    rename_i h64
    have hdl : d.cls = .l := if_pos h64
    have hfull : pat .l (d.wrap v) = pat .l v := hdl ▸ pat_wrap_full (hdl ▸ h64.symm) v
    unfold canon; rw [hdl, hfull]
    split at hok <;> cases hok
    · rename_i hs64
      rw [hsl hs64, exec_cons [] rfl rfl rfl, exec, List.getLast?_concat]
      exact congrArg some (pat_pat (Nat.le_refl _) v)
    · rename_i hs64
      rw [exec_cons [] rfl rfl (ext_correct hs (hsc hs64) hv), exec, List.getLast?_concat]
  · rename_i h64
    have hdw : d.cls = .w := if_neg h64
    split at hok
    · -- to 32 bits
      rename_i h32
      cases hok
      have hfull : pat .w (d.wrap v) = pat .w v := hdw ▸ pat_wrap_full (hdw ▸ h32.symm) v
      unfold canon
      rw [hdw, hfull, exec_cons [] rfl rfl rfl, exec, List.getLast?_concat]
      exact congrArg some (pat_pat (by cases s.cls <;> decide) v)
    · -- to 8 or 16 bits
      split at hok <;> cases hok
      · rename_i hs64
        refine exec_op_renorm hd rfl rfl ?_
        rw [hdw]; unfold canon; rw [hsl hs64]
        exact congrArg some (pat_pat (by decide) v)
      · rename_i hs64
        refine exec_renorm hd _ [] (.param 0) v ?_ (fun h => ?_)
        · unfold canon; rw [hdw, hsc hs64]; rfl
        · have := (legal_bits hd).2; rw [hdw] at this
          exact absurd (Nat.le_antisymm this h) ‹_›

/-- a row's specification has a value only on as many operands as the kind of the row takes -/
theorem rowSpec_length {r : Row} {args : List Int} {v : Nat} (h : rowSpec r args = some v) :
    args.length = if r.kind == .bin || r.kind == .cmp then 2 else 1 := by
  unfold rowSpec at h
  split at h
  case h_5 => cases h
  all_goals (rename_i hk; rw [hk]; rfl)

theorem row_correct (r : Row) (hok : rowOk r = true) (hs : r.src ∈ legalTys) (hd : r.dst ∈ legalTys)
    (hsame : r.kind ≠ .cast → r.dst = r.src) (args : List Int) (hin : ∀ a ∈ args, r.src.inRange a) (v : Nat)
    (hv : rowSpec r args = some v) : exec (args.map (canon r.src)) [] r.seq = some v := by
  obtain ⟨kind, op, src, dst, seq⟩ := r
  replace hok : expectedSeq kind op src dst = some seq := beq_iff_eq.mp hok
  unfold rowSpec at hv
  dsimp only at hs hd hsame hin hv ⊢
  split at hv
  · -- a binary operator: the selected operation, re-normalised except for `rem`
    rename_i a b
    obtain rfl : dst = src := hsame (by decide)
    have ha := hin a (by simp)
    have hb := hin b (by simp)
    rw [expectedSeq] at hok
    split at hv
    · cases hv
    · rename_i hno
      obtain ⟨w, hw, rfl⟩ := Option.map_eq_some_iff.mp hv
      obtain ⟨o, ho, hseq⟩ := Option.bind_eq_some_iff.mp hok
      obtain ⟨u, rfl, hrem, he⟩ := binOp_correct hs ho ha hb hw hno
      split at hseq <;> cases hseq
      · rename_i hr
        rw [wrap_of_inRange (legal_bits hs).1 (hrem hr)]
        exact (exec_cons [] rfl rfl he).trans rfl
      · exact exec_op_renorm hs rfl rfl he
  · rename_i a b
    obtain rfl : dst = src := hsame (by decide)
    rw [expectedSeq] at hok
    obtain ⟨o, ho, hseq⟩ := Option.bind_eq_some_iff.mp hok
    cases hseq
    exact (exec_cons [] rfl rfl ((cmp_correct hs ho (hin a (by simp)) (hin b (by simp))).trans hv)).trans rfl
  · rename_i a
    obtain rfl : dst = src := hsame (by decide)
    cases hok
    cases hv
    exact exec_op_renorm hs rfl rfl (congrArg some (pat_neg dst.cls a))
  · rename_i a
    cases hv
    exact cast_correct hs hd op hok (hin a (by simp))
  · cases hv

/-! ### memory round trip

`memStore` reduces modulo the width of the cell and `memLoad` reduces again before it extends: the left-hand sides of the next
two lemmas carry `% 2 ^ t.bits` twice so that `mem_roundtrip` can use them as they are. -/

theorem load_sign_extending {t : Ty} (ht : t ∈ legalTys) (hs : t.signed = true) {v : Int} (hv : t.inRange v) :
    pat t.cls (sxk t.bits (canon t v % 2 ^ t.bits % 2 ^ t.bits)) = canon t v := by
  obtain ⟨h1, h2⟩ := legal_bits ht
  have hw : (⟨t.bits, true⟩ : Ty).wrap v = v := by rw [← hs]; exact wrap_of_inRange h1 hv
  unfold canon
  rw [Nat.mod_mod, sxk_mod _ h2, hw]

/-- also a signed value that fills its class (`storel`/`loadl`) -/
theorem load_zero_extending {t : Ty} (ht : t ∈ legalTys) (hs : t.signed = false ∨ t.bits = t.cls.bits) {v : Int} (hv : t.inRange v) :
    canon t v % 2 ^ t.bits % 2 ^ t.bits = canon t v := by
  rw [Nat.mod_mod]
  refine Nat.mod_eq_of_lt ?_
  rcases hs with hs | hs
  · have := read_canon ht hv
    have hhi := hv.2
    simp only [Ty.read, Ty.hi, hs, if_false, Bool.false_eq_true] at this hhi
    exact Int.ofNat_lt.mp (by omega)
  · rw [hs]; exact pat_lt _ _

/-- storing the canonical temporary of an in-range value with the type's store instruction and loading it back with the type's
    load instruction gives the canonical temporary again: a value that went through memory (a field, an element, a spilled local)
    is indistinguishable from one that stayed in a temporary -/
theorem mem_roundtrip (t : Ty) (ht : t ∈ legalTys) (v : Int) (hv : t.inRange v) :
    (memStore (expectedMem t).1 (canon t v)).bind (memLoad t.cls (expectedMem t).2) = some (canon t v) := by
  have hS := fun hs => load_sign_extending ht hs hv
  have hU := fun hs => load_zero_extending ht hs hv
  simp only [legalTys, List.mem_cons, List.mem_nil_iff, or_false] at ht
  rcases ht with rfl | rfl | rfl | rfl | rfl | rfl | rfl | rfl
  · exact congrArg some (hS rfl)
  · exact congrArg some (hS rfl)
  · exact congrArg some (hS rfl)
  · exact congrArg some ((congrArg (fun m : Nat => pat .l (m : Int)) (hU (.inr rfl))).trans (pat_natCast .l (pat_lt .l v)))
  · exact congrArg some (hU (.inl rfl))
  · exact congrArg some (hU (.inl rfl))
  · exact congrArg some (hU (.inl rfl))
  · exact congrArg some ((congrArg (fun m : Nat => pat .l (m : Int)) (hU (.inr rfl))).trans (pat_natCast .l (pat_lt .l v)))

/-- sharpness: reading an unsigned byte back with the sign-extending load is wrong from 128 on -/
theorem wrong_load_witness :
    (memStore "storeb" (canon ⟨8, false⟩ 200)).bind (memLoad .w "loadsb") ≠ some (canon ⟨8, false⟩ 200) := by decide

end FerretVerif.QbeSem
