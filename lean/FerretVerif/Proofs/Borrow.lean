/-
  Path overlap is symmetric and, below a common prefix, decided by the prefix going through an index or the rests
  overlapping (reflexivity, coverage of sub-places, disjoint fields, aliasing indices are instances, Props/C07); the live
  loan set of an accepted run satisfies aliasing-xor-mutation at every step; the base of a chain of reference variables
  is refused for a return exactly when the chain ends in the callee's frame.
-/
import FerretVerif.Model.Borrow

namespace FerretVerif.Borrow

theorem overlap_symm (a b : List Seg) : overlap a b = overlap b a := by
  induction a generalizing b with
  | nil => cases b <;> rfl
  | cons x xs ih =>
    cases b with
    | nil => rfl
    | cons y ys => simp only [overlap, ih ys, eq_comm (a := x)]; rw [Bool.or_comm]

theorem overlap_append (pre a b : List Seg) :
    overlap (pre ++ a) (pre ++ b) = (pre.any (· = .idx) || overlap a b) := by
  induction pre with
  | nil => rfl
  | cons x xs ih => by_cases hx : x = .idx <;> simp [overlap, hx, ih]

theorem overlaps_symm (p q : Place) : p.overlaps q = q.overlaps p := by
  simp only [Place.overlaps, overlap_symm p.path, eq_comm (a := p.base)]

/-- aliasing XOR mutation on a loan list: two different loans on overlapping places are both shared -/
def AXM : List Loan → Prop
  | [] => True
  | l :: ls => (∀ m ∈ ls, l.place.overlaps m.place = true → l.isMut = false ∧ m.isMut = false) ∧ AXM ls

theorem axm_iff_pairwise (ls : List Loan) :
    AXM ls ↔ ls.Pairwise fun l m => l.place.overlaps m.place = true → l.isMut = false ∧ m.isMut = false := by
  induction ls with
  | nil => simp [AXM]
  | cons l ls ih => rw [AXM, ih, List.pairwise_cons]

theorem axm_filter (p : Loan → Bool) {ls : List Loan} (h : AXM ls) : AXM (ls.filter p) :=
  (axm_iff_pairwise _).mpr (((axm_iff_pairwise _).mp h).filter p)

theorem writeConflicts_eq_false_iff (live : List Loan) (p : Place) :
    writeConflicts live p = false ↔ ∀ l ∈ live, l.place.overlaps p = false := by
  simp [writeConflicts]

theorem readConflicts_eq_false_iff (live : List Loan) (p : Place) :
    readConflicts live p = false ↔ ∀ l ∈ live, l.place.overlaps p = true → l.isMut = false := by
  simp [readConflicts]

theorem borrowConflicts_eq_false_iff (live : List Loan) (p : Place) (m : Bool) :
    borrowConflicts live p m = false ↔ ∀ l ∈ live, l.place.overlaps p = true → m = false ∧ l.isMut = false := by
  simp [borrowConflicts]

theorem check_cons_eq_none_iff (i : Nat) (live : List Loan) (e : Event) (rest : List Event) :
    check i live (e :: rest) = none ↔
      conflicts live e = false ∧ check (i + 1) (expire (extend live e) rest) rest = none := by
  rw [check]
  cases conflicts live e <;> simp

/-- the loans live after the first `k` events of a run, i.e. when the remaining events start -/
def liveAfter : List Loan → List Event → Nat → List Loan
  | live, _, 0 => live
  | live, [], _ => live
  | live, e :: rest, k + 1 => liveAfter (expire (extend live e) rest) rest k

/-- a new loan that `borrowConflicts` lets through keeps the invariant; no other event adds a loan -/
theorem axm_extend (live : List Loan) (e : Event) (h : AXM live) (hc : conflicts live e = false) : AXM (extend live e) := by
  cases e with
  | borrow r p m =>
    have hnew := (borrowConflicts_eq_false_iff live p m).mp hc
    rw [axm_iff_pairwise] at h ⊢
    exact List.pairwise_append.mpr
      ⟨h, List.pairwise_singleton .., fun l hl n hn => List.mem_singleton.mp hn ▸ fun hov => (hnew l hl hov).symm⟩
  | _ => exact h

/-- **Invariant**: in a run the checker accepts, the live loans satisfy aliasing-xor-mutation after every event. -/
theorem accepted_run_axm (i : Nat) (live : List Loan) (es : List Event) (h : AXM live) (hacc : check i live es = none)
    (k : Nat) : AXM (liveAfter live es k) := by
  fun_induction liveAfter live es k generalizing i with
  | case1 | case2 => exact h
  | case3 live e rest k ih =>
    obtain ⟨hc, hrest⟩ := (check_cons_eq_none_iff i live e rest).mp hacc
    exact ih (i + 1) (axm_filter _ (axm_extend live e h hc)) hrest

/-! ### returned references -/

theorem bindingBase_refused_eq : ∀ v : RVar, v.isRefVar = true →
    (match v.bindingBase with | some b => b.refused | none => false) = v.inCallee
  | .paramRef, _ => rfl
  | .refTo .localVal, _ => rfl
  | .refTo .paramVal, _ => rfl
  | .refTo .paramRef, _ => rfl
  | .refTo (.refTo w), _ => bindingBase_refused_eq (.refTo w) rfl

end FerretVerif.Borrow
