/-
  The reference semantics `Core/Eval.lean` says what the language definition says: two's-complement wrapping,
  truncating division, comparison as the mathematical order, bitwise operators as the Nat bit operations, by-value
  composites with write-through places, left-to-right evaluation. The store laws are proved on the pure outcomes
  `setPathP`, `writeLocP` of the monadic functions, each from one statement about a successful write
  (`setPathP_cons_ok`, `writeLocP_ok`); the equations of the interpreter hold by `rfl`.
-/
import FerretVerif.Core.Eval
import FerretVerif.Proofs.TwoPow
import FerretVerif.Proofs.AssocList

namespace FerretVerif.Core

/-! ## wrapping -/

theorem wrapInt_unsigned (bits : Nat) (v : Int) :
    wrapInt bits false v = v % ((2 ^ bits : Nat) : Int) := rfl

theorem wrapInt_signed (bits : Nat) (v : Int) :
    wrapInt bits true v =
      if ((2 ^ (bits - 1) : Nat) : Int) ≤ v % ((2 ^ bits : Nat) : Int)
      then v % ((2 ^ bits : Nat) : Int) - ((2 ^ bits : Nat) : Int)
      else v % ((2 ^ bits : Nat) : Int) := by
  simp only [wrapInt, Bool.true_and, decide_eq_true_eq, ge_iff_le]

theorem wrapInt_unsigned_range (bits : Nat) (v : Int) :
    0 ≤ wrapInt bits false v ∧ wrapInt bits false v < ((2 ^ bits : Nat) : Int) :=
  have hm := pow2_pos bits
  ⟨Int.emod_nonneg _ (Int.ne_of_gt hm), Int.emod_lt_of_pos _ hm⟩

theorem wrapInt_signed_range {bits : Nat} (h : 1 ≤ bits) (v : Int) :
    -((2 ^ (bits - 1) : Nat) : Int) ≤ wrapInt bits true v ∧
      wrapInt bits true v < ((2 ^ (bits - 1) : Nat) : Int) := by
  rw [wrapInt_signed]
  exact wrap_range (pow2_half h) (pow2_pos _) v

theorem wrapInt_congr {bits : Nat} (s : Bool) {v w : Int}
    (h : v % ((2 ^ bits : Nat) : Int) = w % ((2 ^ bits : Nat) : Int)) : wrapInt bits s v = wrapInt bits s w := by
  unfold wrapInt
  dsimp only
  rw [h]

theorem wrapInt_emod (bits : Nat) (s : Bool) (v : Int) :
    wrapInt bits s v % ((2 ^ bits : Nat) : Int) = v % ((2 ^ bits : Nat) : Int) :=
  wrap_emod

/-- the value range of the `bits`-wide integer type of signedness `s` -/
def InRange (bits : Nat) (s : Bool) (r : Int) : Prop :=
  if s then -((2 ^ (bits - 1) : Nat) : Int) ≤ r ∧ r < ((2 ^ (bits - 1) : Nat) : Int)
  else 0 ≤ r ∧ r < ((2 ^ bits : Nat) : Int)

instance (bits : Nat) (s : Bool) (r : Int) : Decidable (InRange bits s r) := by
  unfold InRange; infer_instance

theorem wrapInt_inRange {bits : Nat} (h : 1 ≤ bits) (s : Bool) (v : Int) :
    InRange bits s (wrapInt bits s v) := by
  cases s
  · exact wrapInt_unsigned_range bits v
  · exact wrapInt_signed_range h v

theorem wrapInt_id_unsigned {bits : Nat} (v : Int) (h0 : 0 ≤ v) (h1 : v < ((2 ^ bits : Nat) : Int)) :
    wrapInt bits false v = v := Int.emod_eq_of_lt h0 h1

theorem wrapInt_id_signed {bits : Nat} (h : 1 ≤ bits) (v : Int)
    (h0 : -((2 ^ (bits - 1) : Nat) : Int) ≤ v) (h1 : v < ((2 ^ (bits - 1) : Nat) : Int)) :
    wrapInt bits true v = v :=
  (wrapInt_signed bits v).trans (wrap_id (pow2_half h) h0 h1)

theorem wrapInt_id_of_in_range {bits : Nat} (h : 1 ≤ bits) (s : Bool) (v : Int)
    (hv : InRange bits s v) : wrapInt bits s v = v := by
  cases s
  · exact wrapInt_id_unsigned v hv.1 hv.2
  · exact wrapInt_id_signed h v hv.1 hv.2

theorem wrapInt_idem {bits : Nat} (h : 1 ≤ bits) (s : Bool) (v : Int) :
    wrapInt bits s (wrapInt bits s v) = wrapInt bits s v :=
  wrapInt_id_of_in_range h s _ (wrapInt_inRange h s v)

/-- `h` is not used: `wrapInt_congr`. -/
theorem wrapInt_eq_of_congr {bits : Nat} (h : 1 ≤ bits) (s : Bool) (v w : Int)
    (hc : (v - w) % ((2 ^ bits : Nat) : Int) = 0) : wrapInt bits s v = wrapInt bits s w :=
  wrapInt_congr s (Int.emod_eq_emod_iff_emod_sub_eq_zero.mpr hc)

example : InRange 8 false 255 := by decide
example : InRange 8 true (-128) := by decide
example : ¬ InRange 8 true 128 := by decide
example : wrapInt 8 true 200 = -56 := by decide
example : wrapInt 16 false 65535 = 65535 := wrapInt_id_of_in_range (by decide) false 65535 (by decide)
/-- why `1 ≤ bits` is needed for uniqueness at a signed type (`C01.wrap_unique`): at width 0 the nominal range
    `[-1, 1)` has two members congruent modulo `2^0 = 1` -/
example : InRange 0 true (-1) ∧ ((-1 : Int) - 0) % ((2 ^ 0 : Nat) : Int) = 0 ∧ wrapInt 0 true 0 ≠ -1 := by decide

/-! ## operators -/

theorem add_wraps (bits : Nat) (s : Bool) (a b : Int) :
    evalIntBin .add bits s a b = pure (.int (wrapInt bits s (a + b))) := rfl
theorem sub_wraps (bits : Nat) (s : Bool) (a b : Int) :
    evalIntBin .sub bits s a b = pure (.int (wrapInt bits s (a - b))) := rfl
theorem mul_wraps (bits : Nat) (s : Bool) (a b : Int) :
    evalIntBin .mul bits s a b = pure (.int (wrapInt bits s (a * b))) := rfl

theorem div_truncates (bits : Nat) (s : Bool) (a b : Int) (hb : b ≠ 0) :
    evalIntBin .div bits s a b = pure (.int (wrapInt bits s (Int.tdiv a b))) :=
  if_neg (mt beq_iff_eq.mp hb)
theorem rem_truncates (bits : Nat) (s : Bool) (a b : Int) (hb : b ≠ 0) :
    evalIntBin .rem bits s a b = pure (.int (wrapInt bits s (Int.tmod a b))) :=
  if_neg (mt beq_iff_eq.mp hb)

theorem div_by_zero_panics (bits : Nat) (s : Bool) (a : Int) :
    evalIntBin .div bits s a 0 = panic "division by zero" := rfl
theorem rem_by_zero_panics (bits : Nat) (s : Bool) (a : Int) :
    evalIntBin .rem bits s a 0 = panic "division by zero" := rfl

theorem trem_abs_lt (a b : Int) (hb : b ≠ 0) : (Int.tmod a b).natAbs < b.natAbs := by
  rw [Int.natAbs_tmod]
  exact Nat.mod_lt _ (Int.natAbs_pos.mpr hb)

theorem trem_abs_lt' (a b : Int) (hb : b ≠ 0) :
    -(b.natAbs : Int) < Int.tmod a b ∧ Int.tmod a b < (b.natAbs : Int) := by
  have h := Int.ofNat_lt.mpr (trem_abs_lt a b hb)
  refine ⟨Int.neg_lt_of_neg_lt (Int.lt_of_le_of_lt Int.le_natAbs ?_), Int.lt_of_le_of_lt Int.le_natAbs h⟩
  rwa [Int.natAbs_neg]

theorem tdiv_toward_zero (a b : Int) : (Int.tdiv a b * b).natAbs ≤ a.natAbs := by
  rw [Int.natAbs_mul, Int.natAbs_tdiv]
  exact Nat.div_mul_le_self _ _

theorem rem_sign_of_dividend (a b : Int) :
    (0 ≤ a → 0 ≤ Int.tmod a b) ∧ (a ≤ 0 → Int.tmod a b ≤ 0) :=
  ⟨Int.tmod_nonneg b, tmod_nonpos b⟩

theorem cmp_is_order (bits : Nat) (s : Bool) (a b : Int) :
    evalIntBin .lt bits s a b = pure (.bool (decide (a < b))) ∧
    evalIntBin .le bits s a b = pure (.bool (decide (a ≤ b))) ∧
    evalIntBin .gt bits s a b = pure (.bool (decide (b < a))) ∧
    evalIntBin .ge bits s a b = pure (.bool (decide (b ≤ a))) ∧
    evalIntBin .eq bits s a b = pure (.bool (decide (a = b))) ∧
    evalIntBin .ne bits s a b = pure (.bool (decide (a ≠ b))) :=
  ⟨rfl, rfl, rfl, rfl, rfl, congrArg (fun c => pure (Val.bool c)) (decide_not (p := a = b)).symm⟩

theorem signed_overflow_example : wrapInt 32 true (2147483647 + 1) = -2147483648 := by decide
theorem unsigned_wrap_example : wrapInt 8 false (200 + 100) = 44 := by decide
theorem signed_wrap_example : wrapInt 8 true 300 = 44 := by decide
theorem signed_wrap_example' : wrapInt 8 true 200 = -56 := by decide
theorem trunc_div_example : Int.tdiv (-7) 2 = -3 ∧ Int.tmod (-7) 2 = -1 ∧ Int.tdiv 7 (-2) = -3 ∧ Int.tmod 7 (-2) = 1 := by
  decide

/-! ## bitwise operators -/

-- the same notion as `QbeSem.pat` (Model/QbeSem.lean)
/-- the unsigned bit pattern of `a` at width `bits` -/
def upat (bits : Nat) (a : Int) : Nat := (a % ((2 ^ bits : Nat) : Int)).toNat

theorem upat_lt (bits : Nat) (a : Int) : upat bits a < 2 ^ bits :=
  (Int.toNat_lt' (Nat.two_pow_pos bits)).mpr (Int.emod_lt_of_pos a (pow2_pos bits))

theorem upat_of_in_range {bits : Nat} {a : Int} (h0 : 0 ≤ a) (h1 : a < ((2 ^ bits : Nat) : Int)) :
    upat bits a = a.toNat := by
  unfold upat; rw [Int.emod_eq_of_lt h0 h1]

/-- the fold is the one in `bitwise` -/
theorem foldl_bits_eq_mod (g : Nat → Bool) (n k : Nat) (hn : ∀ i < k, n.testBit i = g i) :
    (List.range k).foldl (fun (acc : Int) i => if g i = true then acc + 2 ^ i else acc) 0
      = ((n % 2 ^ k : Nat) : Int) := by
  induction k with
  | zero => rw [Nat.pow_zero, Nat.mod_one]; rfl
  | succ k ih =>
    rw [List.range_succ, List.foldl_append, ih fun i hi => hn i (Nat.lt_succ_of_lt hi), Nat.mod_pow_succ,
      ← Nat.toNat_testBit, hn k (Nat.lt_succ_self k)]
    cases hg : g k <;> simp [hg, Int.add_comm]

theorem foldl_bits_range (g : Nat → Bool) (k : Nat) :
    0 ≤ (List.range k).foldl (fun (acc : Int) i => if g i = true then acc + 2 ^ i else acc) 0 ∧
    (List.range k).foldl (fun (acc : Int) i => if g i = true then acc + 2 ^ i else acc) 0 < 2 ^ k := by
  induction k with
  | zero => exact ⟨Int.le_refl 0, Int.zero_lt_one⟩
  | succ k ih =>
    have hp : (0 : Int) < 2 ^ k := Int.pow_pos (by decide)
    rw [List.range_succ, List.foldl_append, List.foldl_cons, List.foldl_nil, Int.pow_succ, Int.mul_comm, Int.two_mul]
    split
    · exact ⟨Int.add_nonneg ih.1 (Int.le_of_lt hp), Int.add_lt_add_right ih.2 _⟩
    · exact ⟨ih.1, Int.lt_trans ih.2 (Int.lt_add_of_pos_right _ hp)⟩

theorem bitwise_range (f : Bool → Bool → Bool) (bits : Nat) (a b : Int) :
    0 ≤ bitwise f bits a b ∧ bitwise f bits a b < ((2 ^ bits : Nat) : Int) := by
  rw [Int.natCast_pow]
  exact foldl_bits_range _ bits

/-- `&&&`, `|||`, `^^^` on `Nat` are `Nat.bitwise` of `and`, `or`, `bne` by definition, which is how the three
    operators instantiate this. -/
theorem bitwise_eq_natBitwise {f : Bool → Bool → Bool} (hf : f false false = false) (bits : Nat) (a b : Int) :
    bitwise f bits a b = ((Nat.bitwise f (upat bits a) (upat bits b) : Nat) : Int) := by
  rw [← Nat.mod_eq_of_lt (Nat.bitwise_lt_two_pow (f := f) (upat_lt bits a) (upat_lt bits b))]
  exact foldl_bits_eq_mod _ _ bits fun i _ => Nat.testBit_bitwise hf ..

theorem bitwise_of_in_range {f : Bool → Bool → Bool} (hf : f false false = false) {bits : Nat} {a b : Int}
    (ha0 : 0 ≤ a) (ha : a < ((2 ^ bits : Nat) : Int)) (hb0 : 0 ≤ b) (hb : b < ((2 ^ bits : Nat) : Int)) :
    bitwise f bits a b = ((Nat.bitwise f a.toNat b.toNat : Nat) : Int) := by
  rw [bitwise_eq_natBitwise hf, upat_of_in_range ha0 ha, upat_of_in_range hb0 hb]

theorem bitwise_and {bits : Nat} {a b : Int} (ha0 : 0 ≤ a) (ha : a < ((2 ^ bits : Nat) : Int))
    (hb0 : 0 ≤ b) (hb : b < ((2 ^ bits : Nat) : Int)) :
    bitwise (· && ·) bits a b = ((a.toNat &&& b.toNat : Nat) : Int) :=
  bitwise_of_in_range rfl ha0 ha hb0 hb
theorem bitwise_or {bits : Nat} {a b : Int} (ha0 : 0 ≤ a) (ha : a < ((2 ^ bits : Nat) : Int))
    (hb0 : 0 ≤ b) (hb : b < ((2 ^ bits : Nat) : Int)) :
    bitwise (· || ·) bits a b = ((a.toNat ||| b.toNat : Nat) : Int) :=
  bitwise_of_in_range rfl ha0 ha hb0 hb
theorem bitwise_xor {bits : Nat} {a b : Int} (ha0 : 0 ≤ a) (ha : a < ((2 ^ bits : Nat) : Int))
    (hb0 : 0 ≤ b) (hb : b < ((2 ^ bits : Nat) : Int)) :
    bitwise (fun x y => x != y) bits a b = ((a.toNat ^^^ b.toNat : Nat) : Int) :=
  bitwise_of_in_range rfl ha0 ha hb0 hb

example : bitwise (· && ·) 8 12 10 = 8 := by decide
example : bitwise (· || ·) 8 12 10 = 14 := by decide
example : bitwise (fun x y => x != y) 8 12 10 = 6 := by decide
/-- a signed operand is taken by its two's-complement pattern: `-1 & 0x0f = 0x0f` at 8 bits -/
example : bitwise (· && ·) 8 (-1) 15 = 15 := by decide

theorem bitwise_unsigned {f : Bool → Bool → Bool} (hf : f false false = false) (bits : Nat) (a b : Int) :
    wrapInt bits false (bitwise f bits a b) = ((Nat.bitwise f (upat bits a) (upat bits b) : Nat) : Int) := by
  have h := bitwise_range f bits a b
  rw [wrapInt_id_unsigned _ h.1 h.2, bitwise_eq_natBitwise hf]

theorem band_unsigned (bits : Nat) (a b : Int) :
    evalIntBin .band bits false a b = pure (.int ((upat bits a &&& upat bits b : Nat) : Int)) :=
  congrArg (pure ∘ Val.int) (bitwise_unsigned rfl bits a b)
theorem bor_unsigned (bits : Nat) (a b : Int) :
    evalIntBin .bor bits false a b = pure (.int ((upat bits a ||| upat bits b : Nat) : Int)) :=
  congrArg (pure ∘ Val.int) (bitwise_unsigned rfl bits a b)
theorem bxor_unsigned (bits : Nat) (a b : Int) :
    evalIntBin .bxor bits false a b = pure (.int ((upat bits a ^^^ upat bits b : Nat) : Int)) :=
  congrArg (pure ∘ Val.int) (bitwise_unsigned rfl bits a b)
theorem band_signed (bits : Nat) (a b : Int) :
    evalIntBin .band bits true a b
      = pure (.int (wrapInt bits true ((upat bits a &&& upat bits b : Nat) : Int))) :=
  congrArg (fun r => pure (Val.int (wrapInt bits true r))) (bitwise_eq_natBitwise rfl bits a b)
example : wrapInt 8 true (bitwise (· && ·) 8 (-1) (-16)) = -16 := by decide

/-! ## store laws: by-value composites, write-through places

`setPathP`, `getPathP`, `readLocP`, `writeLocP` are the pure outcomes of the monadic functions (the `_run` lemmas);
the laws are about a successful pure write.  `setPathP` is a recursive function of its own because the laws go by
cases on it.  A read is only ever unfolded by one segment, so `getPathP` is `getPath` run on the empty state, and
equations of `getPath` in `M` reach `readLocP` through `congrArg (fun m => (m.run {}).1)`. -/

def ofExcept {α : Type} (e : Except Abort α) : M α := ExceptT.mk (pure e)

@[simp] theorem ofExcept_ok {α : Type} (a : α) : ofExcept (.ok a) = (pure a : M α) := rfl
@[simp] theorem ofExcept_error {α : Type} (x : Abort) : (ofExcept (.error x) : M α) = throw x := rfl
theorem ofExcept_run {α : Type} (e : Except Abort α) (s : St) : (ofExcept e).run s = (e, s) := rfl
theorem ofExcept_bind {α β : Type} (e : Except Abort α) (f : α → M β) :
    ofExcept e >>= f = match e with | .ok a => f a | .error x => throw x := by
  cases e <;> rfl
theorem ofExcept_map {α β : Type} (e : Except Abort α) (f : α → β) :
    f <$> ofExcept e = ofExcept (Except.map f e) := by
  cases e <;> rfl
theorem ofExcept_inj {α : Type} {e e' : Except Abort α} (h : ofExcept e = ofExcept e') : e = e' :=
  congrArg (fun m : M α => (m.run {}).1) h

theorem run_get_bind {α : Type} (f : St → M α) (s : St) : (get >>= f).run s = (f s).run s := rfl
theorem run_modify (g : St → St) (s : St) : (modify g : M Unit).run s = (.ok (), g s) := rfl
theorem run_modifyGet {α : Type} (g : St → α × St) (s : St) :
    (modifyGet g : M α).run s = (.ok (g s).1, (g s).2) := rfl
theorem run_pure {α : Type} (a : α) (s : St) : (pure a : M α).run s = (.ok a, s) := rfl
theorem run_throw {α : Type} (e : Abort) (s : St) : (throw e : M α).run s = (.error e, s) := rfl
theorem run_bind {α β : Type} (x : M α) (f : α → M β) (s : St) :
    (x >>= f).run s = match x.run s with
      | (.ok a, s') => (f a).run s'
      | (.error e, s') => (.error e, s') := by
  show (match ExceptT.run x s with | (a, s') => ExceptT.bindCont f a s') = _
  rcases ExceptT.run x s with ⟨a | a, s'⟩ <;> rfl
theorem run_bind_ok {α β : Type} {x : M α} {f : α → M β} {s s' : St} {a : α} (h : x.run s = (.ok a, s')) :
    (x >>= f).run s = (f a).run s' := by rw [run_bind, h]
theorem run_bind_error {α β : Type} {x : M α} {f : α → M β} {s s' : St} {e : Abort}
    (h : x.run s = (.error e, s')) : (x >>= f).run s = (.error e, s') := by rw [run_bind, h]

theorem map_eq_ok {ε α β : Type} {f : α → β} {e : Except ε α} {b : β} (h : e.map f = .ok b) :
    ∃ a, e = .ok a ∧ b = f a := by
  cases e with
  | error x => cases h
  | ok a => cases h; exact ⟨a, rfl, rfl⟩

def setPathP : Val → List Seg → Val → Except Abort Val
  | _, [], nv => .ok nv
  | .struct n fs, .fld f :: rest, nv =>
    match fs.find? (·.1 == f) with
    | some (_, v) =>
      (setPathP v rest nv).map fun v' => .struct n (fs.map fun (g, x) => if g == f then (g, v') else (g, x))
    | none => .error (.stuck s!"no field {f}")
  | .arr es, .idx i :: rest, nv =>
    match es[i]? with
    | some v =>
      (setPathP v rest nv).map fun v' => .arr (es.set i v')
    | none => .error (.panic "index out of bounds")
  | _, _, _ => .error (.stuck "bad path (set)")

theorem setPath_eq (v : Val) (p : List Seg) (nv : Val) : setPath v p nv = ofExcept (setPathP v p nv) := by
  fun_induction setPath v p nv <;>
    simp only [setPathP, stuck, panic, ofExcept_map, ofExcept_ok, ofExcept_error, bind_pure_comp, *]

theorem setPath_run (v : Val) (p : List Seg) (nv : Val) (s : St) :
    (setPath v p nv).run s = (setPathP v p nv, s) := by
  rw [setPath_eq, ofExcept_run]

def getPathP (v : Val) (p : List Seg) : Except Abort Val := ((getPath v p).run {}).1

theorem getPath_run (v : Val) (p : List Seg) (s : St) : (getPath v p).run s = (getPathP v p, s) := by
  unfold getPathP
  -- every arm of `getPath` returns, aborts, or is a recursive call
  fun_induction getPath v p <;> first | rfl | assumption

/-- the field update of `setPath` keeps the field names, so a lookup by name commutes with it -/
theorem find_map_upd (fs : List (String × Val)) (f f' : String) (w : Val) :
    (fs.map fun (g, x) => if g == f then (g, w) else (g, x)).find? (·.1 == f')
      = (fs.find? (·.1 == f')).map fun (g, x) => if g == f then (g, w) else (g, x) :=
  find?_map_of_comp _ (fun (g, x) => by dsimp only; split <;> rfl) fs

theorem find_map_same (fs : List (String × Val)) (f g : String) (v v' : Val)
    (h : fs.find? (·.1 == f) = some (g, v)) :
    (fs.map fun (g, x) => if g == f then (g, v') else (g, x)).find? (·.1 == f) = some (g, v') := by
  have hg := List.find?_some h
  rw [find_map_upd, h]
  exact congrArg some (if_pos hg)

theorem find_map_other (fs : List (String × Val)) (f f' : String) (v' : Val) (hne : f' ≠ f) :
    (fs.map fun (g, x) => if g == f then (g, v') else (g, x)).find? (·.1 == f') = fs.find? (·.1 == f') := by
  rw [find_map_upd]
  cases h : fs.find? (·.1 == f') with
  | none => rfl
  | some gx =>
    have hg := List.find?_some h
    exact congrArg some (if_neg fun e => hne ((beq_iff_eq.mp hg).symm.trans (beq_iff_eq.mp e)))

/-- One segment of a successful write: the child `x` below `sg` is replaced by the result `w` of the write below
    it, and what lies below any other segment is untouched.  Reads are stated for every continuation `q`, so the
    laws below need not know whether `sg` is a field or an index. -/
theorem setPathP_cons_ok {v : Val} {sg : Seg} {p : List Seg} {nv v' : Val}
    (h : setPathP v (sg :: p) nv = .ok v') :
    ∃ x w, setPathP x p nv = .ok w ∧ (∀ q, getPath v (sg :: q) = getPath x q) ∧
      (∀ q, getPath v' (sg :: q) = getPath w q) ∧
      ∀ s2 q, sg ≠ s2 → getPath v' (s2 :: q) = getPath v (s2 :: q) := by
  generalize hp : sg :: p = p' at h
  revert h
  fun_cases setPathP v p' nv <;> intro h <;> cases hp
  case case2 n fs f g x hf =>      -- a field that is found
    obtain ⟨w, hs, rfl⟩ := map_eq_ok h
    refine ⟨x, w, hs, fun q => by rw [getPath, hf], fun q => by rw [getPath, find_map_same fs f g x w hf], ?_⟩
    rintro (f' | j) q hne
    · rw [getPath, getPath, find_map_other fs f f' w fun e => hne (by rw [e])]
    · unfold getPath; rfl
  case case4 es i x hi =>          -- an index in bounds
    obtain ⟨w, hs, rfl⟩ := map_eq_ok h
    refine ⟨x, w, hs, fun q => by rw [getPath, hi],
      fun q => by rw [getPath, List.getElem?_set_self', hi]; rfl, ?_⟩
    rintro (f' | j) q hne
    · unfold getPath; rfl
    · rw [getPath, getPath, List.getElem?_set_ne fun e => hne (by rw [e])]
  all_goals cases h

theorem getPath_setPathP_below {v : Val} {p : List Seg} {nv v' : Val}
    (h : setPathP v p nv = .ok v') (r : List Seg) : getPath v' (p ++ r) = getPath nv r := by
  induction p generalizing v v' with
  | nil => cases h; rfl
  | cons sg p ih =>
    obtain ⟨x, w, hs, _, hw, _⟩ := setPathP_cons_ok h
    rw [List.cons_append, hw, ih hs]

theorem getPath_setPathP_same {v : Val} {p : List Seg} {nv v' : Val}
    (h : setPathP v p nv = .ok v') : getPath v' p = pure nv := by
  have := getPath_setPathP_below h []
  rwa [List.append_nil, getPath] at this

theorem getPath_setPathP_disjoint {v : Val} (pre : List Seg) {s1 s2 : Seg} {p q : List Seg} {nv v' : Val}
    (h : setPathP v (pre ++ s1 :: p) nv = .ok v') (hne : s1 ≠ s2) :
    getPath v' (pre ++ s2 :: q) = getPath v (pre ++ s2 :: q) := by
  induction pre generalizing v v' with
  | nil =>
    obtain ⟨_, _, _, _, _, hd⟩ := setPathP_cons_ok h
    exact hd s2 q hne
  | cons sg pre ih =>
    obtain ⟨x, w, hs, hx, hw, _⟩ := setPathP_cons_ok h
    rw [List.cons_append, hw, hx, ih hs]

def rootP (s : St) : Base → Option Val
  | .cell n => s.cells[n]?
  | .dynB h => s.dyns[h]?.map .arr

def readLocP (s : St) (l : Loc) : Except Abort Val :=
  match rootP s l.base with
  | some v => getPathP v l.path
  | none => .error (.stuck (match l.base with | .cell _ => "dangling cell" | .dynB _ => "dangling dyn"))

def writeLocP (s : St) (l : Loc) (nv : Val) : Except Abort St :=
  match l.base with
  | .cell n =>
    match s.cells[n]? with
    | some v => (setPathP v l.path nv).map fun v' => { s with cells := s.cells.set! n v' }
    | none => .error (.stuck "dangling cell")
  | .dynB h =>
    match s.dyns[h]? with
    | some es =>
      match setPathP (.arr es) l.path nv with
      | .ok (.arr es') => .ok { s with dyns := s.dyns.set! h es' }
      | .ok _ => .error (.stuck "dyn write")
      | .error e => .error e
    | none => .error (.stuck "dangling dyn")

theorem readLoc_run (l : Loc) (s : St) : (readLoc l).run s = (readLocP s l, s) := by
  unfold readLoc readLocP rootP
  rw [run_get_bind]
  obtain ⟨b, p⟩ := l
  cases b with
  | cell n =>
    dsimp only
    cases s.cells[n]? with
    | none => rfl
    | some v => exact getPath_run ..
  | dynB n =>
    dsimp only
    cases s.dyns[n]? with
    | none => rfl
    | some v => exact getPath_run ..

theorem writeLoc_run (l : Loc) (nv : Val) (s : St) :
    (writeLoc l nv).run s = match writeLocP s l nv with
      | .ok s' => (.ok (), s')
      | .error e => (.error e, s) := by
  unfold writeLoc writeLocP
  rw [run_get_bind]
  obtain ⟨b, p⟩ := l
  cases b with
  | cell n =>
    dsimp only
    cases s.cells[n]? with
    | none => rfl
    | some v =>
      dsimp only
      rw [setPath_eq]
      cases setPathP v p nv <;> rfl
  | dynB n =>
    dsimp only
    cases s.dyns[n]? with
    | none => rfl
    | some es =>
      dsimp only
      rw [setPath_eq]
      rcases setPathP (.arr es) p nv with e | w
      · rfl
      · cases w <;> rfl

theorem array_set!_same {α : Type} {a : Array α} {n : Nat} {x : α} (v : α) (h : a[n]? = some x) :
    (a.set! n v)[n]? = some v := by
  obtain ⟨hlt, _⟩ := Array.getElem?_eq_some_iff.mp h
  exact Array.getElem?_setIfInBounds_self_of_lt hlt

theorem writeLocP_ok {s s' : St} {l : Loc} {nv : Val} (h : writeLocP s l nv = .ok s') :
    (∃ v v', rootP s l.base = some v ∧ setPathP v l.path nv = .ok v' ∧ rootP s' l.base = some v') ∧
    (∀ b, b ≠ l.base → rootP s' b = rootP s b) ∧
    s'.out = s.out ∧ s'.clos = s.clos ∧ s'.cells.size = s.cells.size ∧ s'.dyns.size = s.dyns.size := by
  revert h
  fun_cases writeLocP s l nv <;> intro h
  case case1 n hb v hc =>          -- a cell that exists
    obtain ⟨w, hs, rfl⟩ := map_eq_ok h
    rw [hb]
    -- reduce the roots and the projections of `{ s with … }` once, not inside every component below
    dsimp only [rootP]
    refine ⟨⟨v, w, hc, hs, array_set!_same w hc⟩, ?_, rfl, rfl, Array.size_setIfInBounds, rfl⟩
    rintro (m | k) hne
    · exact Array.getElem?_setIfInBounds_ne fun e => hne (congrArg Base.cell e.symm)
    · rfl
  case case3 k hb es hc es' hs =>  -- a dynamic array that exists and is still an array after the write
    cases h
    rw [hb]
    dsimp only [rootP]
    refine ⟨⟨.arr es, .arr es', congrArg (Option.map Val.arr) hc, hs,
      congrArg (Option.map Val.arr) (array_set!_same es' hc)⟩, ?_, rfl, rfl, rfl, Array.size_setIfInBounds⟩
    rintro (m | k') hne
    · rfl
    · exact congrArg (Option.map Val.arr) (Array.getElem?_setIfInBounds_ne fun e => hne (congrArg Base.dynB e.symm))
  all_goals cases h

theorem readLocP_writeLocP_same {s s' : St} {l : Loc} {nv : Val} (h : writeLocP s l nv = .ok s') :
    readLocP s' l = .ok nv := by
  obtain ⟨⟨v, v', _, hs, hr⟩, _⟩ := writeLocP_ok h
  rw [readLocP, hr]
  exact congrArg (fun m : M Val => (m.run {}).1) (getPath_setPathP_same hs)

theorem readLocP_writeLocP_other_base {s s' : St} {l l' : Loc} {nv : Val}
    (h : writeLocP s l nv = .ok s') (hne : l'.base ≠ l.base) : readLocP s' l' = readLocP s l' := by
  rw [readLocP, readLocP, (writeLocP_ok h).2.1 _ hne]

theorem readLocP_writeLocP_disjoint_path {s s' : St} {b : Base} (pre : List Seg) {s1 s2 : Seg}
    {p q : List Seg} {nv : Val} (h : writeLocP s ⟨b, pre ++ s1 :: p⟩ nv = .ok s') (hne : s1 ≠ s2) :
    readLocP s' ⟨b, pre ++ s2 :: q⟩ = readLocP s ⟨b, pre ++ s2 :: q⟩ := by
  obtain ⟨⟨v, v', hr, hs, hr'⟩, _⟩ := writeLocP_ok h
  rw [readLocP, readLocP, hr, hr']
  exact congrArg (fun m : M Val => (m.run {}).1) (getPath_setPathP_disjoint pre hs hne)

theorem writeLocP_frame {s s' : St} {l : Loc} {nv : Val} (h : writeLocP s l nv = .ok s') :
    s'.out = s.out ∧ s'.clos = s.clos ∧ s'.cells.size = s.cells.size ∧ s'.dyns.size = s.dyns.size :=
  (writeLocP_ok h).2.2

/-! ### the same laws, stated on the monadic functions by running them -/

theorem getPath_state_indep (v : Val) (p : List Seg) :
    ∃ r, ∀ s : St, (getPath v p).run s = (r, s) := ⟨_, getPath_run v p⟩
theorem setPath_state_indep (v : Val) (p : List Seg) (nv : Val) :
    ∃ r, ∀ s : St, (setPath v p nv).run s = (r, s) := ⟨_, setPath_run v p nv⟩

theorem setPath_run_ok {v : Val} {p : List Seg} {nv v' : Val} {s s' : St}
    (h : (setPath v p nv).run s = (.ok v', s')) : setPathP v p nv = .ok v' :=
  congrArg Prod.fst ((setPath_run v p nv s).symm.trans h)

theorem getPath_setPath_same' {v : Val} {p : List Seg} {nv v' : Val}
    (h : setPath v p nv = pure v') : getPath v' p = pure nv :=
  getPath_setPathP_same (ofExcept_inj (e' := .ok v') ((setPath_eq v p nv).symm.trans h))

theorem getPath_setPath_disjoint {v : Val} (pre : List Seg) {s1 s2 : Seg} {p q : List Seg} {nv v' : Val}
    {s s' : St} (h : (setPath v (pre ++ s1 :: p) nv).run s = (.ok v', s')) (hne : s1 ≠ s2) (t : St) :
    (getPath v' (pre ++ s2 :: q)).run t = (getPath v (pre ++ s2 :: q)).run t := by
  rw [getPath_setPathP_disjoint pre (setPath_run_ok h) hne]

theorem getPath_setPath_disjoint_field {v : Val} {f g : String} {p q : List Seg} {nv v' : Val} {s s' : St}
    (h : (setPath v (.fld f :: p) nv).run s = (.ok v', s')) (hne : g ≠ f) (t : St) :
    (getPath v' (.fld g :: q)).run t = (getPath v (.fld g :: q)).run t :=
  getPath_setPath_disjoint [] h (fun e => hne (by cases e; rfl)) t

theorem getPath_setPath_disjoint_index {v : Val} {i j : Nat} {p q : List Seg} {nv v' : Val} {s s' : St}
    (h : (setPath v (.idx i :: p) nv).run s = (.ok v', s')) (hne : j ≠ i) (t : St) :
    (getPath v' (.idx j :: q)).run t = (getPath v (.idx j :: q)).run t :=
  getPath_setPath_disjoint [] h (fun e => hne (by cases e; rfl)) t

theorem writeLoc_run_ok {l : Loc} {nv : Val} {s s' : St}
    (h : (writeLoc l nv).run s = (.ok (), s')) : writeLocP s l nv = .ok s' := by
  rw [writeLoc_run] at h
  split at h <;> cases h
  assumption

theorem writeLoc_run_error {l : Loc} {nv : Val} {s s' : St} {e : Abort}
    (h : (writeLoc l nv).run s = (.error e, s')) : s' = s := by
  rw [writeLoc_run] at h
  split at h <;> cases h
  rfl

theorem readLoc_writeLoc_same {l : Loc} {nv : Val} {s s' : St}
    (h : (writeLoc l nv).run s = (.ok (), s')) : (readLoc l).run s' = (.ok nv, s') := by
  rw [readLoc_run, readLocP_writeLocP_same (writeLoc_run_ok h)]

theorem readLoc_writeLoc_other_base {l l' : Loc} {nv : Val} {s s' : St}
    (h : (writeLoc l nv).run s = (.ok (), s')) (hne : l'.base ≠ l.base) :
    (readLoc l').run s' = (((readLoc l').run s).1, s') := by
  rw [readLoc_run, readLoc_run, readLocP_writeLocP_other_base (writeLoc_run_ok h) hne]

theorem readLoc_writeLoc_disjoint_path {b : Base} (pre : List Seg) {s1 s2 : Seg} {p q : List Seg}
    {nv : Val} {s s' : St} (h : (writeLoc ⟨b, pre ++ s1 :: p⟩ nv).run s = (.ok (), s')) (hne : s1 ≠ s2) :
    (readLoc ⟨b, pre ++ s2 :: q⟩).run s' = (((readLoc ⟨b, pre ++ s2 :: q⟩).run s).1, s') := by
  rw [readLoc_run, readLoc_run, readLocP_writeLocP_disjoint_path pre (writeLoc_run_ok h) hne]

/-! examples: the hypotheses are satisfiable -/
example : setPathP (.struct "P" [("x", .int 1), ("y", .int 2)]) [.fld "y"] (.int 7)
    = .ok (.struct "P" [("x", .int 1), ("y", .int 7)]) := rfl
example : getPathP (.struct "P" [("x", .int 1), ("y", .int 7)]) [.fld "x"] = .ok (.int 1) := by
  simp only [getPathP, getPath]; rfl
example : setPathP (.arr [.int 1, .int 2, .int 3]) [.idx 1] (.int 9) = .ok (.arr [.int 1, .int 9, .int 3]) := rfl
example : writeLocP { cells := #[.int 0, .arr [.int 1, .int 2]] } ⟨.cell 1, [.idx 0]⟩ (.int 5)
    = .ok { cells := #[.int 0, .arr [.int 5, .int 2]] } := rfl

/-! ## evaluation order, and the `if` on a constant

The interpreter recurses structurally on the fuel, so its equations hold by `rfl`.  Rewrite with the ones stated
here: `rw [evalE]` would have Lean generate the per-case equation lemmas of the whole mutual block, which is slow. -/

theorem evalE_zero (ctx : Ctx) (env : Env) (e : Expr) : evalE ctx 0 env e = throw .fuel := rfl
theorem evalE_lit (ctx : Ctx) (fuel : Nat) (env : Env) (t : Ty) (v : Int) :
    evalE ctx (fuel + 1) env (.lit t v) = pure (.int (wrapTy t v)) := rfl
theorem evalE_blit (ctx : Ctx) (fuel : Nat) (env : Env) (b : Bool) :
    evalE ctx (fuel + 1) env (.blit b) = pure (.bool b) := rfl
theorem evalArgs_zero (ctx : Ctx) (env : Env) (es : List Expr) : evalArgs ctx 0 env es = throw .fuel := rfl
theorem evalArgs_nil (ctx : Ctx) (fuel : Nat) (env : Env) : evalArgs ctx (fuel+1) env [] = pure [] := rfl
theorem evalArgs_cons (ctx : Ctx) (fuel : Nat) (env : Env) (a : Expr) (as : List Expr) :
    evalArgs ctx (fuel + 1) env (a :: as) = (do
      let v ← evalE ctx fuel env a
      let vs ← evalArgs ctx fuel env as
      pure (v :: vs)) := rfl

/-- how a binary operator combines its (dereferenced) operand values -/
def combineBin (op : BinOp) (t : Ty) (va vb : Val) : M Val :=
  match op, va, vb with
  | .land, .bool x, .bool y => pure (.bool (x && y))
  | .lor, .bool x, .bool y => pure (.bool (x || y))
  | .eq, x, y => match t with
    | .int bits s => match x, y with
      | .int p, .int q => evalIntBin .eq bits s p q
      | _, _ => stuck "eq operands"
    | _ => pure (.bool (valEq x y))
  | .ne, x, y => match t with
    | .int bits s => match x, y with
      | .int p, .int q => evalIntBin .ne bits s p q
      | _, _ => stuck "ne operands"
    | _ => pure (.bool (!valEq x y))
  | op, .int x, .int y => match t with
    | .int bits s => evalIntBin op bits s x y
    | _ => stuck "int op at non-int type"
  | _, _, _ => stuck "bin operands"

/-- left to right: `b` is evaluated after `a`, in the state `a` left; with `run_bind_error`, an abort of `a`
    is the abort of the whole expression and `b` is not evaluated -/
theorem evalE_bin (ctx : Ctx) (fuel : Nat) (env : Env) (op : BinOp) (t : Ty) (a b : Expr) :
    evalE ctx (fuel + 1) env (.bin op t a b) = (do
      let va ← derefVal 8 (← evalE ctx fuel env a)
      let vb ← derefVal 8 (← evalE ctx fuel env b)
      combineBin op t va vb) := rfl

theorem combineBin_int (op : BinOp) (bits : Nat) (s : Bool) (x y : Int) :
    combineBin op (.int bits s) (.int x) (.int y) = evalIntBin op bits s x y := by
  cases op <;> rfl

theorem derefVal_of_not_ref (k : Nat) {v : Val} (hv : ∀ l, v ≠ .ref l) : derefVal k v = pure v := by
  fun_cases derefVal k v
  · rfl
  · exact absurd rfl (hv _)
  · rfl

theorem evalE_bin_abort_left' (ctx : Ctx) (fuel : Nat) (env : Env) (op : BinOp) (t : Ty) (a b : Expr)
    (x : Abort) (h : evalE ctx fuel env a = throw x) :
    evalE ctx (fuel + 1) env (.bin op t a b) = throw x := by
  rw [evalE_bin, h]; rfl

theorem evalArgs_abort_head (ctx : Ctx) (fuel : Nat) (env : Env) (a : Expr) (as : List Expr)
    (s s' : St) (x : Abort) (h : (evalE ctx fuel env a).run s = (.error x, s')) :
    (evalArgs ctx (fuel + 1) env (a :: as)).run s = (.error x, s') := by
  rw [evalArgs_cons]; exact run_bind_error h

theorem evalE_add_lits (ctx : Ctx) (fuel : Nat) (env : Env) (bits : Nat) (sg : Bool) (x y : Int) :
    evalE ctx (fuel + 2) env (.bin .add (.int bits sg) (.lit (.int bits sg) x) (.lit (.int bits sg) y)) =
      pure (.int (wrapInt bits sg (wrapInt bits sg x + wrapInt bits sg y))) := by
  rw [evalE_bin, evalE_lit, evalE_lit]; rfl

theorem execS_if_const (ctx : Ctx) (fuel : Nat) (env : Env) (ret : Ty) (c : Expr) (b : Bool) (thn els : List Stmt)
    (hc : evalE ctx fuel env c = pure (.bool b)) :
    execS ctx (fuel + 1) env ret (.ifS c thn els) = (do
      let (fl, _) ← execBlock ctx fuel env ret (if b then thn else els)
      pure (fl, env)) := by
  -- the `if` arm of `execS` begins by evaluating the condition
  show evalE ctx fuel env c >>= _ = _
  rw [hc]
  rfl

def emptyCtx : Ctx := ⟨[], [], [], []⟩
def u8 : Ty := .int 8 false

/-- order witness: the left operand's panic wins over the right operand's stuck, and vice versa -/
example : ((evalE emptyCtx 3 [] (.bin .add u8 (.bin .div u8 (.lit u8 1) (.lit u8 0)) (.var "nope"))).run {}).1
    = .error (.panic "division by zero") := by
  rfl
example : ((evalE emptyCtx 3 [] (.bin .add u8 (.var "nope") (.bin .div u8 (.lit u8 1) (.lit u8 0)))).run {}).1
    = .error (.stuck "unbound nope") := by
  rfl
example : ((evalE emptyCtx 2 [] (.bin .add u8 (.lit u8 200) (.lit u8 100))).run {}).1 = .ok (.int 44) := by
  rfl

end FerretVerif.Core
