/-
  Integer literals (C10): on every string of the lexer's integer grammar (`isIntLit`) the parser
  `newNumericValue` returns the mathematical value `specVal`, so `fitsInType` tests exactly the type's range on that value.
  The way there follows the parser: a digit group without its separators is a non-empty string of digits below the base,
  on which `setString` is Horner's rule; the regex tests of `stringToBigInt` pick the base that `splitBody` reads off
  the prefix; the sign is handled outside.  Last, Horner's rule is the positional sum.
-/
import FerretVerif.Model.Literal

namespace FerretVerif.Literal

/-- `isBin`, `isOct`, `isDec` unfold to the hypothesis for b = 2, 8, 10 (`'0'` has code 48) -/
theorem digitVal_lt_of_range {c : Char} {b : Nat} (hb : b ≤ 10) (h : (48 ≤ c.toNat && c.toNat ≤ 47 + b) = true) :
    digitVal c < b := by
  rw [Bool.and_eq_true, decide_eq_true_eq, decide_eq_true_eq] at h
  have hd : isDec c = true := by
    unfold isDec; rw [Bool.and_eq_true, decide_eq_true_eq, decide_eq_true_eq]
    exact ⟨h.1, Nat.le_trans h.2 (Nat.add_le_add_left hb 47)⟩
  unfold digitVal
  rw [if_pos hd]
  exact Nat.sub_lt_left_of_lt_add h.1 (Nat.lt_of_le_of_lt h.2 (Nat.add_lt_add_right (by decide) b))

theorem isHex_lt {c : Char} (h : isHex c = true) : digitVal c < 16 := by
  unfold isHex isDec at h
  unfold digitVal isDec
  simp only [Bool.or_eq_true, Bool.and_eq_true, decide_eq_true_eq] at h ⊢
  -- a decimal digit, a–f or A–F: the branch of `digitVal` it takes, where the value is largest at the upper end
  rcases h with (h | h) | h
  · rw [if_pos h]
    exact Nat.lt_of_le_of_lt (Nat.sub_le_sub_right h.2 48) (by decide)
  · rw [if_neg fun d => absurd (Nat.le_trans h.1 d.2) (by decide), if_pos ⟨h.1, Nat.le_trans h.2 (by decide)⟩]
    exact Nat.lt_of_le_of_lt (Nat.add_le_add_right (Nat.sub_le_sub_right h.2 97) 10) (by decide)
  · rw [if_neg fun d => absurd (Nat.le_trans h.1 d.2) (by decide), if_neg fun d => absurd (Nat.le_trans d.1 h.2) (by decide),
      if_pos ⟨h.1, Nat.le_trans h.2 (by decide)⟩]
    exact Nat.lt_of_le_of_lt (Nat.add_le_add_right (Nat.sub_le_sub_right h.2 65) 10) (by decide)

theorem isDigOf_lt {b : Nat} {c : Char} (hb : b = 16 ∨ b = 8 ∨ b = 2 ∨ b = 10) (h : isDigOf b c = true) :
    digitVal c < b := by
  rcases hb with rfl | rfl | rfl | rfl
  · exact isHex_lt h
  · exact digitVal_lt_of_range (by decide) h
  · exact digitVal_lt_of_range (by decide) h
  · exact digitVal_lt_of_range (by decide) h

/-- `digitVal` is 99 on everything that is no letter or digit, the two signs among them -/
theorem not_sign_of_digitVal_lt {c : Char} (h : digitVal c < 99) : c ≠ '+' ∧ c ≠ '-' := by
  constructor <;> (rintro rfl; revert h; decide)

theorem groupTail_mem {p : Char → Bool} {ds : List Char} (h : groupTail p ds = true) :
    ∀ c ∈ ds, c ≠ '_' → p c = true := by
  fun_induction groupTail p ds with
  | case1 => exact fun _ hc => nomatch hc
  | case2 c rest ih =>
    rw [Bool.and_eq_true] at h
    exact List.forall_mem_cons.2 ⟨fun hne => absurd rfl hne, List.forall_mem_cons.2 ⟨fun _ => h.1, ih h.2⟩⟩
  | case3 c rest _ ih =>
    rw [Bool.and_eq_true] at h
    exact List.forall_mem_cons.2 ⟨fun _ => h.1, ih h.2⟩

theorem clean_cons_ne {c : Char} (h : c ≠ '_') (r : List Char) : clean (c :: r) = c :: clean r := by
  simp [clean, h]

theorem clean_head_ne {c : Char} (hc : c ≠ '_') (hc' : c ≠ '-') (s r : List Char) : clean (c :: s) ≠ '-' :: r := by
  rw [clean_cons_ne hc]
  exact fun h => hc' (List.cons.inj h).1

theorem mem_clean {x : Char} {s : List Char} : x ∈ clean s ↔ x ∈ s ∧ x ≠ '_' := by
  simp [clean]

theorem group_clean {p : Char → Bool} {ds : List Char} (h : group p ds = true) :
    clean ds ≠ [] ∧ ∀ x ∈ clean ds, p x = true := by
  cases ds with
  | nil => simp [group] at h
  | cons c rest =>
    simp only [group, Bool.and_eq_true, bne_iff_ne, ne_eq] at h
    rw [clean_cons_ne h.1.1]
    refine ⟨List.cons_ne_nil _ _, fun x hx => ?_⟩
    rcases List.mem_cons.mp hx with rfl | hx
    · exact h.1.2
    · exact groupTail_mem h.2 x (mem_clean.mp hx).1 (mem_clean.mp hx).2

/-- `group_clean` in the form the regex tests of `stringToBigInt` ask it -/
theorem group_tests {p : Char → Bool} {ds : List Char} (h : group p ds = true) :
    (!(clean ds).isEmpty && (clean ds).all p) = true := by
  simp only [Bool.and_eq_true, Bool.not_eq_true', List.isEmpty_eq_false_iff, List.all_eq_true]
  exact group_clean h

theorem digitsVal_eq (base : Nat) (ds : List Char) :
    digitsVal base ds = (clean ds).foldl (fun acc c => acc * base + digitVal c) 0 := rfl

theorem setString_digits {base : Nat} {cs : List Char} (hb : base ≤ 99) (hne : cs ≠ [])
    (hall : ∀ x ∈ cs, digitVal x < base) :
    setString cs base = some ((cs.foldl (fun acc c => acc * base + digitVal c) 0 : Nat) : Int) := by
  cases cs with
  | nil => exact absurd rfl hne
  | cons c r =>
    have hc := not_sign_of_digitVal_lt (Nat.lt_of_lt_of_le (hall c List.mem_cons_self) hb)
    have hall' : (c :: r).all (fun c => decide (digitVal c < base)) = true := by
      simp only [List.all_eq_true, decide_eq_true_eq]
      exact hall
    unfold setString
    split
    next neg ds heq =>
      -- `c` is no sign: the string is taken as it is
      split at heq
      · exact absurd (List.cons.inj ‹_›).1 hc.1
      · exact absurd (List.cons.inj ‹_›).1 hc.2
      · cases heq
        simp [hall']

theorem setString_group {base : Nat} {ds : List Char} (hb : base = 16 ∨ base = 8 ∨ base = 2 ∨ base = 10)
    (h : group (isDigOf base) ds = true) : setString (clean ds) base = some (digitsVal base ds : Int) :=
  setString_digits (by omega) (group_clean h).1 fun x hx => isDigOf_lt hb ((group_clean h).2 x hx)

theorem matchesPrefixed_cons (p1 p2 c : Char) (q : Char → Bool) (r : List Char) :
    matchesPrefixed p1 p2 q ('0' :: c :: r) = ((c == p1 || c == p2) && !r.isEmpty && r.all q) := rfl

/-- no prefixed form matches: the second character is no letter -/
theorem matchesPrefixed_dec (p1 p2 : Char) (q : Char → Bool) (cs : List Char)
    (hall : ∀ x ∈ cs, isDec x = true) (h1 : isDec p1 = false) (h2 : isDec p2 = false) :
    matchesPrefixed p1 p2 q cs = false := by
  unfold matchesPrefixed
  split
  next c r =>
    have hc := hall c (List.mem_cons_of_mem _ List.mem_cons_self)
    have n1 : (c == p1) = false := beq_false_of_ne fun e => by rw [e, h1] at hc; cases hc
    have n2 : (c == p2) = false := beq_false_of_ne fun e => by rw [e, h2] at hc; cases hc
    rw [n1, n2]; rfl
  · rfl

theorem stringToBigInt_decimal (ds : List Char) (h : group isDec ds = true) :
    stringToBigInt ds = some (digitsVal 10 ds : Int) := by
  have hall := (group_clean h).2
  unfold stringToBigInt
  simp only []
  rw [matchesPrefixed_dec 'x' 'X' isHex (clean ds) hall (by decide) (by decide)]
  rw [matchesPrefixed_dec 'o' 'O' isOct (clean ds) hall (by decide) (by decide)]
  rw [matchesPrefixed_dec 'b' 'B' isBin (clean ds) hall (by decide) (by decide)]
  simp only [Bool.false_eq_true, if_false]
  exact setString_group (.inr (.inr (.inr rfl))) h

/-- magnitude parser is correct on every sign-free literal body -/
theorem stringToBigInt_body (body : List Char)
    (h : group (isDigOf (splitBody body).1) (splitBody body).2 = true) :
    stringToBigInt body = some (digitsVal (splitBody body).1 (splitBody body).2 : Int) := by
  revert h
  fun_cases splitBody body <;> intro h
  -- after `0` and a prefix letter, the regex tests before the letter's own (tried in the order x, o, b) evaluate to
  -- `false`; what is left of its own is `group_tests h`
  iterate 6
    unfold stringToBigInt
    simp only [clean_cons_ne, ne_eq, Char.reduceEq, not_false_eq_true, matchesPrefixed_cons, Char.reduceBEq,
      Bool.or_false, Bool.or_true, Bool.or_self, Bool.false_and, Bool.true_and, Bool.false_eq_true, if_false]
    exact (if_pos (group_tests h)).trans (setString_group (by decide) h)
  exact stringToBigInt_decimal _ h

theorem clean_body_ne_minus (body : List Char)
    (h : group (isDigOf (splitBody body).1) (splitBody body).2 = true) (r : List Char) :
    clean body ≠ '-' :: r := by
  revert h
  fun_cases splitBody body <;> intro h
  iterate 6 exact clean_head_ne (by decide) (by decide) _ r
  intro heq
  have : isDec '-' = true := (group_clean h).2 '-' (heq ▸ List.mem_cons_self)
  revert this; decide

theorem stringToBigInt_clean (s : List Char) : stringToBigInt (clean s) = stringToBigInt s := by
  unfold stringToBigInt clean
  simp only [List.filter_filter, Bool.and_self]

theorem newNumericValue_neg (body : List Char) :
    newNumericValue ('-' :: body) = (stringToBigInt body).map (fun v => -v) := by
  unfold newNumericValue
  simp only [clean_cons_ne (by decide : '-' ≠ '_'), stringToBigInt_clean]

/-- the sign test is made on the string without its separators -/
theorem newNumericValue_of_ne {s : List Char} (h : ∀ r, clean s ≠ '-' :: r) : newNumericValue s = stringToBigInt s := by
  fun_cases newNumericValue s
  · exact absurd ‹_› (h _)
  · exact stringToBigInt_clean s

theorem isIntLit_eq (s : List Char) : isIntLit s =
    group (isDigOf (splitBody (splitSign s).2).1) (splitBody (splitSign s).2).2 := rfl

theorem specVal_eq (s : List Char) : specVal s =
    if (splitSign s).1 then -(digitsVal (splitBody (splitSign s).2).1 (splitBody (splitSign s).2).2 : Int)
    else digitsVal (splitBody (splitSign s).2).1 (splitBody (splitSign s).2).2 := rfl

theorem newNumericValue_eq_specVal (s : List Char) (h : isIntLit s = true) :
    newNumericValue s = some (specVal s) := by
  rw [isIntLit_eq] at h
  rw [specVal_eq]
  revert h
  fun_cases splitSign s <;> intro h
  · rw [newNumericValue_neg, stringToBigInt_body _ h]; rfl
  · rw [newNumericValue_of_ne (clean_body_ne_minus _ h), stringToBigInt_body _ h]; rfl

theorem fitsBits_exact (v : Int) (bits : Nat) (signed : Bool) :
    fitsBits v bits signed = true ↔
      (if signed then -(2 ^ (bits - 1) : Int) ≤ v ∧ v ≤ 2 ^ (bits - 1) - 1 else 0 ≤ v ∧ v ≤ 2 ^ bits - 1) := by
  cases signed <;> exact decide_eq_true_iff

theorem fits_exact (s : List Char) (bits : Nat) (signed : Bool) (h : isIntLit s = true) :
    fitsInType s bits signed = true ↔
      (if signed then -(2 ^ (bits - 1) : Int) ≤ specVal s ∧ specVal s ≤ 2 ^ (bits - 1) - 1
       else 0 ≤ specVal s ∧ specVal s ≤ 2 ^ bits - 1) := by
  unfold fitsInType
  rw [newNumericValue_eq_specVal s h]
  exact fitsBits_exact _ _ _

theorem digitsVal_append_digit (base : Nat) (ds : List Char) (c : Char) (hc : c ≠ '_') :
    digitsVal base (ds ++ [c]) = digitsVal base ds * base + digitVal c := by
  simp [digitsVal, List.filter_append, hc, List.foldl_append]

/-- positional value Σ dᵢ·base^(n-1-i), most significant digit first -/
def posSum (base : Nat) : List Char → Nat
  | [] => 0
  | c :: r => digitVal c * base ^ r.length + posSum base r

theorem foldl_eq_posSum (base : Nat) (cs : List Char) (acc : Nat) :
    cs.foldl (fun acc c => acc * base + digitVal c) acc = acc * base ^ cs.length + posSum base cs := by
  induction cs generalizing acc with
  | nil => simp [posSum]
  | cons c r ih =>
    simp only [List.foldl_cons, List.length_cons, posSum]
    rw [ih, Nat.pow_succ, Nat.add_mul, Nat.mul_assoc, Nat.mul_comm base, Nat.add_assoc]

theorem digitsVal_eq_posSum (base : Nat) (ds : List Char) :
    digitsVal base ds = posSum base (clean ds) := by
  rw [digitsVal_eq, foldl_eq_posSum]; simp

theorem posSum_eq_range (base : Nat) (cs : List Char) :
    posSum base cs = ((List.range cs.length).map
      (fun i => digitVal (cs.getD i '0') * base ^ (cs.length - 1 - i))).sum := by
  induction cs with
  | nil => rfl
  | cons c r ih =>
    rw [List.length_cons, List.range_succ_eq_map, List.map_cons, List.sum_cons, List.map_map, posSum, ih]
    -- index i + 1 of `c :: r` is index i of `r`, and the exponent n + 1 - 1 - (i + 1) is n - 1 - i
    simp only [Function.comp_def, List.getD_cons_succ, List.getD_cons_zero, Nat.add_sub_cancel, Nat.sub_zero,
      Nat.sub_sub, Nat.add_comm 1]

end FerretVerif.Literal
