/-
  Counters of the diagnostic bag and exit status (C13).  `Bag.Inv`: the two counters are the lengths of the list filtered
  by severity.  `add` keeps it; what `hasErrors`, the exit status and the printed errors say of the list is read off it.
-/
import FerretVerif.Model.Diag

namespace FerretVerif.Diag

def isErr (d : D) : Bool := d.sev = .error
def isWarn (d : D) : Bool := d.sev = .warning

def Bag.Inv (b : Bag) : Prop :=
  b.errorCount = (b.diags.filter isErr).length ∧ b.warnCount = (b.diags.filter isWarn).length

theorem empty_inv : Bag.empty.Inv := by simp [Bag.Inv, Bag.empty]

theorem add_inv (b : Bag) (d : D) (h : b.Inv) : (b.add d).Inv := by
  obtain ⟨h1, h2⟩ := h
  unfold Bag.Inv Bag.add
  simp only [List.filter_append, List.length_append]
  constructor
  · by_cases he : d.sev = .error <;> simp [isErr, he, h1, List.filter]
  · by_cases hw : d.sev = .warning <;> simp [isWarn, hw, h2, List.filter]

theorem add_diags (b : Bag) (d : D) : (b.add d).diags = b.diags ++ [d] := rfl

theorem addAll_diags (b : Bag) (ds : List D) : (addAll b ds).diags = b.diags ++ ds := by
  unfold addAll
  induction ds generalizing b with
  | nil => simp
  | cons d ds ih => simp only [List.foldl_cons]; rw [ih, add_diags]; simp

theorem addAll_inv (b : Bag) (ds : List D) (h : b.Inv) : (addAll b ds).Inv := by
  unfold addAll
  induction ds generalizing b with
  | nil => simpa
  | cons d ds ih => simp only [List.foldl_cons]; exact ih _ (add_inv b d h)

theorem hasErrors_iff (b : Bag) (h : b.Inv) : b.hasErrors = true ↔ ∃ d ∈ b.diags, d.sev = .error := by
  unfold Bag.hasErrors
  rw [h.1]
  simp only [decide_eq_true_eq, List.length_pos_iff_exists_mem, List.mem_filter, isErr]

theorem addAll_empty_inv (ds : List D) : (addAll Bag.empty ds).Inv := addAll_inv _ ds empty_inv

theorem addAll_empty_diags (ds : List D) : (addAll Bag.empty ds).diags = ds :=
  (addAll_diags _ ds).trans (List.nil_append ds)

theorem exitStatus_eq_zero_iff (b : Bag) : b.exitStatus = 0 ↔ b.hasErrors = false := by
  unfold Bag.exitStatus Bag.success; cases b.hasErrors <;> simp

/-- what `EmitAll` prints with an `error` header is empty exactly when the bag holds no error -/
theorem printedErrors_eq_nil_iff (b : Bag) (h : b.Inv) : b.printedErrors = [] ↔ b.hasErrors = false := by
  rw [← Bool.not_eq_true, hasErrors_iff b h]
  simp [Bag.printedErrors, List.filter_eq_nil_iff]

theorem hasErrors_mono (b : Bag) (ds : List D) (hi : b.Inv) (h : b.hasErrors = true) : (addAll b ds).hasErrors = true := by
  rw [hasErrors_iff _ (addAll_inv b ds hi), addAll_diags]
  obtain ⟨d, hd, he⟩ := (hasErrors_iff b hi).mp h
  exact ⟨d, List.mem_append_left _ hd, he⟩

end FerretVerif.Diag
