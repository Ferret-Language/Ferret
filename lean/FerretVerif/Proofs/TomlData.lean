/-
  C20, data side: `lookup` sees the parser's `Data` as a function of section and key;
  `setIn` is an update of it and `ensureSection` is invisible to it.  Nothing here depends on the text side.
-/
import FerretVerif.Model.Toml
import FerretVerif.Proofs.AssocList

namespace FerretVerif.Toml

/-! ## What the parser's data contains -/

def tlookup (t : Table) (k : List Char) : Option PVal := (t.find? (·.1 == k)).map (·.2)

/-- value of key `k` in section `n` -/
def lookup (d : Data) (n k : List Char) : Option PVal :=
  (d.find? (·.1 == n)).bind fun s => tlookup s.2 k

theorem tlookup_setKey (t : Table) (k k' : List Char) (v : PVal) :
    tlookup (setKey t k v) k' = if k' = k then some v else tlookup t k' := by
  unfold tlookup setKey
  -- `find?_filter` joins the filter's test and the lookup's into one predicate `decide (… ∧ …)`
  rw [List.find?_append, List.find?_filter]
  by_cases h : k' = k
  · subst h
    have : t.find? (fun a => decide ((a.1 != k') = true ∧ (a.1 == k') = true)) = none :=
      List.find?_eq_none.mpr fun a _ => by simp
    rw [this]; simp
  · have : (fun a : List Char × PVal => decide ((a.1 != k) = true ∧ (a.1 == k') = true))
        = fun a => a.1 == k' := by
      funext a
      by_cases ha : a.1 = k' <;> simp [ha, h]
    have hk : (k == k') = false := beq_eq_false_iff_ne.mpr fun e => h e.symm
    rw [this]; simp [h, hk]

theorem mem_names_ensureSection {d : Data} {s n : List Char} :
    n ∈ (ensureSection d s).map (·.1) ↔ n = s ∨ n ∈ d.map (·.1) := by
  unfold ensureSection
  split
  next h =>
    obtain ⟨x, hx, hxs⟩ := List.any_eq_true.mp h
    have : s ∈ d.map (·.1) := List.mem_map.mpr ⟨x, hx, by simpa using hxs⟩
    exact ⟨Or.inr, fun h' => h'.elim (fun e => e ▸ this) id⟩
  next => rw [List.map_append, List.mem_append, List.map_singleton, List.mem_singleton, or_comm]

theorem lookup_ensureSection (d : Data) (s n k : List Char) :
    lookup (ensureSection d s) n k = lookup d n k := by
  unfold lookup ensureSection
  split
  · rfl
  next h =>
    rw [List.find?_append]
    cases hf : d.find? (·.1 == n) with
    | some x => rfl
    | none =>
      -- the new section is empty
      rw [Option.none_or, List.find?_singleton]
      split <;> rfl

/-- the function is the one `setIn` maps over the sections -/
theorem setIn_map_fst (s k : List Char) (v : PVal) (x : List Char × Table) :
    ((fun (n, t) => if n == s then (n, setKey t k v) else (n, t)) x : List Char × Table).1 = x.1 := by
  show (if x.1 == s then (x.1, setKey x.2 k v) else (x.1, x.2)).1 = x.1
  split <;> rfl

theorem lookup_setIn (d : Data) (s k : List Char) (v : PVal) (n k' : List Char) :
    lookup (setIn d s k v) n k' = if n = s ∧ k' = k then some v else lookup d n k' := by
  -- both sides are made to search `ensureSection d s`, the list `setIn` maps over
  rw [← lookup_ensureSection d s n k', setIn, lookup, lookup,
    find?_map_of_comp _ (q := (·.1 == n)) fun x => by rw [setIn_map_fst]]
  cases hfind : (ensureSection d s).find? (·.1 == n) with
  | none =>
    -- `ensureSection d s` has a section `s`
    have : ¬ (n = s ∧ k' = k) := by
      rintro ⟨rfl, _⟩
      have hn : n ∈ (ensureSection d n).map (·.1) := mem_names_ensureSection.mpr (Or.inl rfl)
      obtain ⟨x, hx, e⟩ := List.mem_map.mp hn
      exact List.find?_eq_none.mp hfind x hx (by simpa using e)
    simp [this]
  | some x =>
    have hx : x.1 = n := by simpa using List.find?_some hfind
    show tlookup (if x.1 == s then (x.1, setKey x.2 k v) else (x.1, x.2)).2 k' = _
    by_cases hn : n = s
    · simp [hx, hn, tlookup_setKey]
    · simp [hx, hn]

/-! ## What the writer's sections leave in it -/

def applyEntries (sec : List Char) (d : Data) (es : List (List Char × WVal)) : Data :=
  es.foldl (fun d e => setIn d sec e.1 (expectRead e.2)) d

abbrev WSection := List Char × List (List Char × WVal)

/-- effect of one written section on the parser's data -/
def applySec (d : Data) (s : WSection) : Data :=
  applyEntries s.1 (if s.1 == "default".toList then d else ensureSection d s.1) s.2

/-- the left arm does not say which entry for `k` is read back: where it is used the keys are pairwise distinct -/
theorem lookup_applyEntries (s : List Char) (es : List (List Char × WVal)) (n k : List Char) (d : Data) :
    (n = s ∧ ∃ v, (k, v) ∈ es ∧ lookup (applyEntries s d es) n k = some (expectRead v)) ∨
      (¬ (n = s ∧ k ∈ es.map (·.1)) ∧ lookup (applyEntries s d es) n k = lookup d n k) := by
  induction es generalizing d with
  | nil => exact Or.inr ⟨nofun, rfl⟩
  | cons e es ih =>
    rcases ih (setIn d s e.1 (expectRead e.2)) with ⟨hn, v, hv, h⟩ | ⟨hno, h⟩
    · exact Or.inl ⟨hn, v, List.mem_cons_of_mem _ hv, h⟩
    · rw [lookup_setIn] at h
      by_cases hc : n = s ∧ k = e.1
      · rw [if_pos hc] at h
        exact Or.inl ⟨hc.1, e.2, by rw [hc.2]; exact List.mem_cons_self, h⟩
      · rw [if_neg hc] at h
        refine Or.inr ⟨fun ⟨h1, h2⟩ => ?_, h⟩
        rcases List.mem_cons.mp h2 with h2 | h2
        · exact hc ⟨h1, h2⟩
        · exact hno ⟨h1, h2⟩

theorem lookup_foldl_applySec (secs : List WSection) (n k : List Char) (d : Data) :
    (∃ es v, (n, es) ∈ secs ∧ (k, v) ∈ es ∧ lookup (secs.foldl applySec d) n k = some (expectRead v)) ∨
      ((∀ es, (n, es) ∈ secs → k ∉ es.map (·.1)) ∧ lookup (secs.foldl applySec d) n k = lookup d n k) := by
  induction secs generalizing d with
  | nil => exact Or.inr ⟨nofun, rfl⟩
  | cons s secs ih =>
    rcases ih (applySec d s) with ⟨es, v, h1, h2, h⟩ | ⟨hno, h⟩
    · exact Or.inl ⟨es, v, List.mem_cons_of_mem _ h1, h2, h⟩
    · have hbase : lookup (if s.1 == "default".toList then d else ensureSection d s.1) n k = lookup d n k := by
        split
        · rfl
        · exact lookup_ensureSection d s.1 n k
      rcases lookup_applyEntries s.1 s.2 n k (if s.1 == "default".toList then d else ensureSection d s.1)
        with ⟨hn, v, hv, h'⟩ | ⟨hno', h'⟩
      · exact Or.inl ⟨s.2, v, by rw [hn]; exact List.mem_cons_self, hv, h.trans h'⟩
      · refine Or.inr ⟨fun es hes => ?_, h.trans (h'.trans hbase)⟩
        rcases List.mem_cons.mp hes with rfl | hes
        · exact fun hk => hno' ⟨rfl, hk⟩
        · exact hno es hes

/-! ### Section names present in the parser's data -/

theorem names_setIn (d : Data) (s k : List Char) (v : PVal) :
    (setIn d s k v).map (·.1) = (ensureSection d s).map (·.1) := by
  rw [setIn, map_fst_map (setIn_map_fst s k v)]

theorem names_applyEntries {s : List Char} {es : List (List Char × WVal)} {n : List Char} {d : Data}
    (h : n ∈ (applyEntries s d es).map (·.1)) : n = s ∨ n ∈ d.map (·.1) := by
  induction es generalizing d with
  | nil => exact Or.inr h
  | cons e es ih =>
    rcases ih h with h | h
    · exact Or.inl h
    · rwa [names_setIn, mem_names_ensureSection] at h

theorem names_foldl_applySec {secs : List WSection} {n : List Char} {d : Data}
    (h : n ∈ (secs.foldl applySec d).map (·.1)) : n ∈ secs.map (·.1) ∨ n ∈ d.map (·.1) := by
  induction secs generalizing d with
  | nil => exact Or.inr h
  | cons s secs ih =>
    rw [List.map_cons, List.mem_cons]
    rcases ih h with h | h
    · exact Or.inl (Or.inr h)
    · rcases names_applyEntries h with h | h
      · exact Or.inl (Or.inl h)
      · split at h
        · exact Or.inr h
        · exact (mem_names_ensureSection.mp h).imp_left Or.inl

end FerretVerif.Toml
