/-
  The return-path analysis (Model/Cfg.lean, C05) is exact on the model.  One mutual structural induction over the
  nested inductive `Stmt` (`specS`/`specL`/`specC`) determines what the builder returns: for every statement list `l`,
  entry reachability `r` and break accumulator `k`, with `(c, k') := buildL l (some r) k` and `o := outL l`
      c = none → o.falls = false               -- a nil current block means that no path falls through
      c = some x → x = (r && o.falls)          -- graph reachability of the fall-through block
      k' = (k || (r && o.brks))                -- graph-reachable breaks to the innermost loop
  None of this needs well-formedness.
-/
import FerretVerif.Model.Cfg
namespace FerretVerif.Cfg

/-! ### unreachable code (current block nil) is skipped -/

theorem buildS_none (s : Stmt) (k : Bool) : buildS s none k = (none, k) := by
  cases s <;> rfl

theorem buildL_none (l : List Stmt) (k : Bool) : buildL l none k = (none, k) := by
  induction l with
  | nil => rfl
  | cons s ss ih => rw [buildL, buildS_none]; exact ih

/-! ### what the builder returns

`Spec` and `SpecC` are what the induction proves.  `Inv` keeps of `Spec` what `implAllPathsReturn` looks at: whether the
fall-through block is `some true`, a nil block and an unreachable one not told apart. -/

/-- what the builder may return for statements with outcomes `o`, entered at `(some r, k)` -/
def Spec (p : Option Bool × Bool) (r k : Bool) (o : Outs) : Prop :=
  (match p.1 with | none => o.falls = false | some x => x = (r && o.falls)) ∧ p.2 = (k || (r && o.brks))

/-- the same for the arms of a match: `p.1` says whether some arm left a non-nil block -/
def SpecC (p : Bool × Bool × Bool) (r k : Bool) (o : Outs) : Prop :=
  (p.1 = false → o.falls = false) ∧ p.2.1 = (r && o.falls) ∧ p.2.2 = (k || (r && o.brks))

def Inv (p : Option Bool × Bool) (r k : Bool) (o : Outs) : Prop :=
  (p.1 == some true) = (r && o.falls) ∧ p.2 = (k || (r && o.brks))

def InvC (p : Bool × Bool × Bool) (r k : Bool) (o : Outs) : Prop :=
  p.2.1 = (r && o.falls) ∧ (p.2.1 = true → p.1 = true) ∧ p.2.2 = (k || (r && o.brks))

theorem Spec.inv {p r k o} (h : Spec p r k o) : Inv p r k o := by
  obtain ⟨c, k'⟩ := p
  cases c <;> simp_all [Spec, Inv]

theorem Spec.falls_of_none {p r k o} (h : Spec p r k o) (hn : p.1 = none) : o.falls = false := by
  simpa only [Spec, hn] using h.1

theorem SpecC.inv {p r k o} (h : SpecC p r k o) : InvC p r k o := by
  obtain ⟨h1, h2, h3⟩ := h
  refine ⟨h2, fun hm => ?_, h3⟩
  cases hf : p.1 <;> simp_all

theorem Outs.seq_falls (a b : Outs) : (a.seq b).falls = (a.falls && b.falls) := by
  unfold Outs.seq
  cases h : a.falls <;> simp [h]

theorem Outs.seq_brks (a b : Outs) : (a.seq b).brks = (a.brks || (a.falls && b.brks)) := by
  unfold Outs.seq
  cases a.falls <;> simp

/-! ### each clause of the builder computes the corresponding combination of outcomes -/
section clauses
variable {p p' : Option Bool × Bool} {r k : Bool} {o o' : Outs}

/-- `g = buildL ss` is entered at what `s` leaves, and skipped after a nil block -/
theorem Spec.seq {g : Option Bool → Bool → Option Bool × Bool} (h : Spec p r k o)
    (hg : ∀ r1 k1, Spec (g (some r1) k1) r1 k1 o') (hn : ∀ k1, g none k1 = (none, k1)) :
    Spec (g p.1 p.2) r k (o.seq o') := by
  obtain ⟨a, k1⟩ := p
  obtain ⟨ha, rfl⟩ := h
  cases a with
  | none =>
    have ha : o.falls = false := ha
    simp [hn, Spec, Outs.seq_falls, Outs.seq_brks, ha]
  | some r1 =>
    obtain ⟨hb, hk⟩ := hg r1 (k || (r && o.brks))
    generalize g (some r1) _ = q at hb hk ⊢
    obtain ⟨b, k2⟩ := q
    subst ha hk
    clear hg hn
    cases b <;>
      simp_all [Spec, Outs.seq_falls, Outs.seq_brks, Bool.and_or_distrib_left, Bool.or_assoc, Bool.and_assoc]

theorem Spec.ifNoElse (h : Spec p r k o) :
    Spec (some ((p.1 == some true) || r), p.2) r k (o.union ⟨true, false, false, false⟩) := by
  obtain ⟨a, k1⟩ := p
  obtain ⟨ha, rfl⟩ := h
  cases a <;> simp_all [Spec, Outs.union]

theorem Spec.ifElse (h : Spec p r k o) (h' : Spec p' r p.2 o') :
    Spec (if p.1.isNone && p'.1.isNone then (none, p'.2) else (some ((p.1 == some true) || (p'.1 == some true)), p'.2))
      r k (o.union o') := by
  obtain ⟨a, k1⟩ := p
  obtain ⟨b, k2⟩ := p'
  obtain ⟨ha, rfl⟩ := h
  obtain ⟨hb, rfl⟩ := h'
  cases a <;> cases b <;> simp_all [Spec, Outs.union, Bool.and_or_distrib_left, Bool.or_assoc]

/-- `while` / `for`: the body starts a fresh break accumulator; `exits` says whether the condition can fail -/
theorem Spec.loop (h : Spec p r false o) (exits : Bool) :
    Spec (some ((exits && r) || p.2), k) r k ⟨exits || o.brks, o.rets, false, false⟩ := by
  cases r <;> simp [Spec, h.2]

theorem Spec.ofCases {q : Bool × Bool × Bool} (h : SpecC q r k o) (d ce : Bool) :
    Spec (if q.1 || (!d && !ce) then (some (q.2.1 || ((!d && !ce) && r)), q.2.2) else (none, q.2.2)) r k
      (if d || ce then o else o.union ⟨true, false, false, false⟩) := by
  obtain ⟨f, m, k1⟩ := q
  obtain ⟨hf, rfl, rfl⟩ := h
  rw [← Bool.not_or]
  generalize (d || ce) = closed
  cases closed <;> cases f <;> simp_all [Spec, Outs.union]

theorem SpecC.cons {q : Bool × Bool × Bool} (h : Spec p r k o) (h' : SpecC q r p.2 o') :
    SpecC (p.1.isSome || q.1, (p.1 == some true) || q.2.1, q.2.2) r k (o.union o') := by
  obtain ⟨a, k1⟩ := p
  obtain ⟨f, m, k2⟩ := q
  obtain ⟨ha, rfl⟩ := h
  obtain ⟨hf, rfl, rfl⟩ := h'
  cases a <;> simp_all [SpecC, Outs.union, Bool.and_or_distrib_left, Bool.or_assoc]
end clauses

-- the pairs in the clause lemmas are the clauses of `buildS`, `buildL`, `buildCases` with `let (a, k1) := …` read as
-- projections, so every composite case holds by unfolding
mutual
theorem specS : ∀ (s : Stmt) (r k : Bool), Spec (buildS s (some r) k) r k (outS s)
  | .plain, r, k => by simp [Spec, buildS, outS]
  | .ret, r, k => by simp [Spec, buildS, outS]
  | .brk, r, k => by simp [Spec, buildS, outS]
  | .cont, r, k => by simp [Spec, buildS, outS]
  | .ifS thn none, r, k => (specL thn r k).ifNoElse
  | .ifS thn (some e), r, k => (specL thn r k).ifElse (specL e r _)
  | .whileS lt body, r, k => (specL body r false).loop (!lt)
  | .forS body, r, k => (specL body r false).loop true
  | .matchS cs d ce, r, k => Spec.ofCases (specC cs r k) d ce
  | .block body, r, k => specL body r k
theorem specL : ∀ (l : List Stmt) (r k : Bool), Spec (buildL l (some r) k) r k (outL l)
  | [], r, k => by simp [Spec, buildL, outL]
  | s :: ss, r, k => (specS s r k).seq (g := buildL ss) (specL ss) (buildL_none ss)
theorem specC : ∀ (cs : List (List Stmt)) (r k : Bool), SpecC (buildCases cs r k) r k (outCases cs)
  | [], r, k => by simp [SpecC, buildCases, outCases, Outs.none]
  | c :: cs, r, k => SpecC.cons (specL c r k) (specC cs r _)
end

-- `specS` and `specC` read as an invariant (`Inv`; `InvC` for the arms) and a clause for the nil block: exports, the
-- proofs below use `specL`
theorem invS : ∀ (s : Stmt) (r k : Bool), Inv (buildS s (some r) k) r k (outS s) :=
  fun s r k => (specS s r k).inv

theorem invC : ∀ (cs : List (List Stmt)) (r k : Bool), InvC (buildCases cs r k) r k (outCases cs) :=
  fun cs r k => (specC cs r k).inv

theorem noneS : ∀ (s : Stmt) (r k : Bool), (buildS s (some r) k).1 = none → (outS s).falls = false :=
  fun s r k => (specS s r k).falls_of_none

theorem noneC : ∀ (cs : List (List Stmt)) (r k : Bool), (buildCases cs r k).1 = false → (outCases cs).falls = false :=
  fun cs r k => (specC cs r k).1

/-! ### what this says of the builder's fall-through block and break flag -/

theorem build_reach (l : List Stmt) (r k : Bool) :
    (buildL l (some r) k).1 = some true ↔ (r = true ∧ (outL l).falls = true) := by
  rw [← beq_iff_eq, (specL l r k).inv.1, Bool.and_eq_true]

theorem build_brks (l : List Stmt) (r k : Bool) :
    (buildL l (some r) k).2 = (k || (r && (outL l).brks)) := (specL l r k).2

theorem build_unreachable (l : List Stmt) (k : Bool) :
    (buildL l (some false) k).1 ≠ some true ∧ (buildL l (some false) k).2 = k :=
  ⟨fun h => by simpa using (build_reach l false k).mp h, by simpa using build_brks l false k⟩

theorem build_none (l : List Stmt) (r k : Bool) :
    (buildL l (some r) k).1 = none → (outL l).falls = false := (specL l r k).falls_of_none

/-! ### the analysis is exact -/

theorem returns_exact (b : List Stmt) : implAllPathsReturn b = !canFallOff b := by
  simp only [implAllPathsReturn, canFallOff, bne, (specL b true false).inv.1, Bool.true_and]

/-- `wfL false b = true` is not used: `returns_exact`. -/
theorem returns_sound (b : List Stmt) :
    wfL false b = true → implAllPathsReturn b = true → canFallOff b = false := by
  intro _ h
  simpa [returns_exact] using h

/-- `wfL false b = true` is not used: `returns_exact`. -/
theorem returns_complete (b : List Stmt) :
    wfL false b = true → canFallOff b = false → implAllPathsReturn b = true := by
  intro _ h
  simp [returns_exact, h]

/-- `wfL false b = true` is not used: `returns_exact`. -/
theorem returns_iff (b : List Stmt) (_ : wfL false b = true) :
    implAllPathsReturn b = true ↔ canFallOff b = false := by
  simp [returns_exact]

/-! ### a match falls through by an arm, or because it is open (no default, enum not covered) -/

theorem canFallOff_match (cases : List (List Stmt)) (d ce : Bool) :
    canFallOff [.matchS cases d ce] = ((outCases cases).falls || !(d || ce)) := by
  rw [canFallOff, outL, outL, Outs.seq_falls, Bool.and_true, outS]
  cases d <;> cases ce <;> simp [Outs.union]

theorem outCases_falls_false (cases : List (List Stmt))
    (h : ∀ c ∈ cases, (outL c).falls = false) : (outCases cases).falls = false := by
  induction cases with
  | nil => rfl
  | cons c cs ih =>
    simp [outCases, Outs.union, h c (List.mem_cons_self ..), ih fun c' hc' => h c' (List.mem_cons_of_mem _ hc')]

/-- even when every arm returns, an open match (no default, enum not covered) can fall through, and the
    analysis says so; with a default arm or full enum coverage it cannot.  (`cases = []` allowed; the
    first two conjuncts do not even need the hypothesis on the arms.) -/
theorem match_open_falls (cases : List (List Stmt)) (h : ∀ c ∈ cases, (outL c).falls = false) :
    canFallOff [.matchS cases false false] = true ∧
    implAllPathsReturn [.matchS cases false false] = false ∧
    (∀ ce, canFallOff [.matchS cases true ce] = false) ∧
    (∀ d, canFallOff [.matchS cases d true] = false) ∧
    (∀ ce, implAllPathsReturn [.matchS cases true ce] = true) ∧
    (∀ d, implAllPathsReturn [.matchS cases d true] = true) := by
  simp [returns_exact, canFallOff_match, outCases_falls_false cases h]

/-! ### concrete bodies: both functions agree, hypotheses satisfiable -/

example : wfL false [.ifS [.ret] (some [.ret])] = true ∧
    implAllPathsReturn [.ifS [.ret] (some [.ret])] = true ∧ canFallOff [.ifS [.ret] (some [.ret])] = false := by
  decide
example : wfL false [.whileS true [.ifS [.brk] none], .ret] = true ∧
    implAllPathsReturn [.whileS true [.ifS [.brk] none], .ret] = true ∧
    canFallOff [.whileS true [.ifS [.brk] none], .ret] = false := by decide
example : wfL false [.whileS true [.ifS [.brk] none]] = true ∧
    implAllPathsReturn [.whileS true [.ifS [.brk] none]] = false ∧
    canFallOff [.whileS true [.ifS [.brk] none]] = true := by decide
example : wfL false [.whileS true [.ret], .plain] = true ∧
    implAllPathsReturn [.whileS true [.ret], .plain] = true ∧ canFallOff [.whileS true [.ret], .plain] = false := by
  decide
example : wfL false [.whileS false [.ret], .plain] = true ∧
    implAllPathsReturn [.whileS false [.ret], .plain] = false ∧ canFallOff [.whileS false [.ret], .plain] = true := by
  decide
example : wfL false [.forS [.ret]] = true ∧
    implAllPathsReturn [.forS [.ret]] = false ∧ canFallOff [.forS [.ret]] = true := by decide
/-- nested loops with an unreachable break: the outer loop never exits, so "all paths return" holds vacuously
    although the body contains no `return` -/
example : wfL false [.whileS true [.whileS true [.plain], .brk]] = true ∧
    implAllPathsReturn [.whileS true [.whileS true [.plain], .brk]] = true ∧
    canFallOff [.whileS true [.whileS true [.plain], .brk]] = false := by decide
example : implAllPathsReturn [.matchS [[.ret], [.ret]] false false] = false ∧
    implAllPathsReturn [.matchS [[.ret], [.ret]] true false] = true ∧
    implAllPathsReturn [.matchS [[.ret], [.ret]] false true] = true ∧
    implAllPathsReturn [.matchS [[.ret], [.plain]] true false] = false := by decide
/-- an ill-formed body (break outside a loop): the two sides still agree -/
example : wfL false [.brk, .plain] = false ∧
    implAllPathsReturn [.brk, .plain] = true ∧ canFallOff [.brk, .plain] = false := by decide

end FerretVerif.Cfg
