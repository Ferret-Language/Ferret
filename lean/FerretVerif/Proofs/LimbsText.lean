/-
  Decimal text conversion of the limb model: ferret_limbs_to_decimal (digits of the value), the digit loop of
  ferret_parse_uint (Horner evaluation modulo B^n, stopping behaviour), and the print/parse round trip.
-/
import FerretVerif.Proofs.LimbsBase

namespace FerretVerif.Limbs

/-! ### decimal digits -/

/-- Horner evaluation of a most-significant-first digit list -/
def horner (base : Nat) (ds : List Nat) (init : Nat) : Nat := ds.foldl (fun a d => a * base + d) init

theorem horner_nil (base init : Nat) : horner base [] init = init := rfl
theorem horner_cons (base d : Nat) (ds : List Nat) (init : Nat) :
    horner base (d :: ds) init = horner base ds (init * base + d) := rfl
theorem horner_append (base : Nat) (ds es : List Nat) (init : Nat) :
    horner base (ds ++ es) init = horner base es (horner base ds init) := by
  simp only [horner, List.foldl_append]

theorem horner_init (base : Nat) (ds : List Nat) (init : Nat) :
    horner base ds init = init * base ^ ds.length + horner base ds 0 := by
  induction ds generalizing init with
  | nil => simp [horner_nil]
  | cons d ds ih =>
    rw [horner_cons, ih (init * base + d), horner_cons, ih (0 * base + d), List.length_cons,
      Nat.pow_succ, Nat.zero_mul, Nat.zero_add, Nat.add_mul, Nat.mul_assoc,
      Nat.mul_comm base (base ^ ds.length)]
    omega

/-- the loop of `toDecimalDigits` on plain naturals -/
def natDigitsAux : Nat → Nat → List Nat → List Nat
  | 0, _, acc => acc
  | fuel + 1, v, acc => if v = 0 then acc else natDigitsAux fuel (v / 10) (v % 10 :: acc)

/-- decimal digits, most significant first; `digits10 0 = []` -/
def digits10 (v : Nat) : List Nat :=
  if _ : v = 0 then [] else digits10 (v / 10) ++ [v % 10]
decreasing_by omega

theorem digits10_zero : digits10 0 = [] := by rw [digits10]; simp
theorem digits10_pos (v : Nat) (h : v ≠ 0) : digits10 v = digits10 (v / 10) ++ [v % 10] := by
  rw [digits10]; simp [h]

theorem natDigitsAux_eq (fuel v : Nat) (acc : List Nat) (h : v < 10 ^ fuel) :
    natDigitsAux fuel v acc = digits10 v ++ acc := by
  fun_induction natDigitsAux fuel v acc with
  | case1 v acc => rw [Nat.lt_one_iff.1 h, digits10_zero]; rfl
  | case2 fuel acc => rw [digits10_zero]; rfl
  | case3 fuel v acc hv ih =>
    rw [ih (Nat.div_lt_of_lt_mul (Nat.pow_succ' ▸ h)), digits10_pos v hv, List.append_assoc]; rfl

theorem digits10_lt (v : Nat) : ∀ d ∈ digits10 v, d < 10 := by
  fun_induction digits10 v with
  | case1 => intro d hd; cases hd
  | case2 v hv ih =>
    intro d hd
    rcases List.mem_append.1 hd with hd | hd
    · exact ih d hd
    · rw [List.mem_singleton.1 hd]; exact Nat.mod_lt _ (by decide)

theorem horner_digits10 (v : Nat) : horner 10 (digits10 v) 0 = v := by
  fun_induction digits10 v with
  | case1 => rfl
  | case2 v hv ih => rw [horner_append, ih, horner_cons, horner_nil, Nat.mul_comm]; exact Nat.div_add_mod v 10

theorem digits10_ne_nil (v : Nat) (h : v ≠ 0) : digits10 v ≠ [] := by
  rw [digits10_pos v h]; simp

theorem digits10_head (v : Nat) (h : v ≠ 0) : ∃ d ds, digits10 v = d :: ds ∧ d ≠ 0 ∧ d < 10 := by
  fun_induction digits10 v with
  | case1 => exact absurd rfl h
  | case2 v hv ih =>
    by_cases hq : v / 10 = 0
    · rw [hq, digits10_zero]
      refine ⟨v % 10, [], rfl, fun h0 => hv ?_, Nat.mod_lt _ (by decide)⟩
      rw [← Nat.div_add_mod v 10, hq, h0]
    · obtain ⟨d, ds, e, h1, h2⟩ := ih hq
      exact ⟨d, ds ++ [v % 10], by rw [e]; rfl, h1, h2⟩

theorem digits10_length (v k : Nat) (h : v < 10 ^ k) : (digits10 v).length ≤ k := by
  fun_induction digits10 v generalizing k with
  | case1 => exact Nat.zero_le _
  | case2 v hv ih =>
    cases k with
    | zero => exact absurd (Nat.lt_one_iff.1 h) hv
    | succ k =>
      rw [List.length_append]
      exact Nat.succ_le_succ (ih k (Nat.div_lt_of_lt_mul (Nat.pow_succ' ▸ h)))

theorem toDecimalDigits_natDigitsAux_any_fuel (B : Nat) (hB : 0 < B) (fuel : Nat) (work acc : List Nat) :
    toDecimalDigits B fuel work acc = natDigitsAux fuel (val B work) acc := by
  fun_induction toDecimalDigits B fuel work acc with
  | case1 => rfl
  | case2 fuel work acc hz => rw [(isZero_iff B hB work).1 hz]; rfl
  | case3 fuel work acc hz qs rem hdiv ih =>
    obtain ⟨hq, hr⟩ := divSmall_val B 10 (by decide) work
    rw [hdiv] at hq hr
    rw [ih, natDigitsAux, if_neg ((isZero_eq_false_iff B hB work).1 (Bool.eq_false_iff.2 hz)), ← hq, ← hr]

/-- `h` is not used: `toDecimalDigits_natDigitsAux_any_fuel`. -/
theorem toDecimalDigits_eq_natDigitsAux (B : Nat) (hB : 0 < B) (fuel : Nat) (work acc : List Nat)
    (h : val B work < 10 ^ fuel) :
    toDecimalDigits B fuel work acc = natDigitsAux fuel (val B work) acc :=
  toDecimalDigits_natDigitsAux_any_fuel B hB fuel work acc

theorem toDecimalDigits_eq (B : Nat) (hB : 0 < B) (fuel : Nat) (work acc : List Nat)
    (h : val B work < 10 ^ fuel) :
    toDecimalDigits B fuel work acc = digits10 (val B work) ++ acc := by
  rw [toDecimalDigits_natDigitsAux_any_fuel B hB, natDigitsAux_eq _ _ _ h]

theorem toDecimalDigits_lt (B : Nat) (hB : 0 < B) (fuel : Nat) (work : List Nat)
    (h : val B work < 10 ^ fuel) : ∀ d ∈ toDecimalDigits B fuel work [], d < 10 := by
  rw [toDecimalDigits_eq B hB fuel work [] h, List.append_nil]
  exact digits10_lt _

/-! ### parseDigits -/

/-- the char is skipped (`_`) or consumed (a digit below the base) by the digit loop -/
def validChar (base : Nat) (c : Char) : Bool :=
  c == '_' || (match digitValue c with | some d => decide (d < base) | none => false)

/-- numeric values of the digit characters of a string (`_` and other non-digits dropped) -/
def digitVals (cs : List Char) : List Nat := cs.filterMap digitValue

/-- repeated `ferret_mul_add_small` -/
def mulAddAll (B base : Nat) (ds : List Nat) (v : List Nat) : List Nat :=
  ds.foldl (fun v d => mulAddSmall B base v d) v

theorem mulAddAll_nil (B base : Nat) (v : List Nat) : mulAddAll B base [] v = v := rfl
theorem mulAddAll_cons (B base d : Nat) (ds v : List Nat) :
    mulAddAll B base (d :: ds) v = mulAddAll B base ds (mulAddSmall B base v d) := rfl

theorem horner_mod (base M : Nat) (ds : List Nat) (x : Nat) :
    horner base ds (x % M) % M = horner base ds x % M := by
  induction ds generalizing x with
  | nil => rw [horner_nil, horner_nil, Nat.mod_mod]
  | cons d ds ih =>
    rw [horner_cons, horner_cons, ← ih (x % M * base + d), ← ih (x * base + d)]
    congr 2
    rw [Nat.add_mod, Nat.mul_mod, Nat.mod_mod, ← Nat.mul_mod, ← Nat.add_mod]

theorem mulAddAll_eq (B base : Nat) (hB : 0 < B) (ds v : List Nat) (hv : Wf B v) :
    mulAddAll B base ds v = ofNat B v.length (horner base ds (val B v)) := by
  induction ds generalizing v with
  | nil => exact (ofNat_val B v hv).symm
  | cons d ds ih =>
    rw [mulAddAll_cons, horner_cons, mulAddSmall_eq B base hB, ih _ (ofNat_wf B hB), ofNat_length, val_ofNat]
    exact ofNat_congr B _ (horner_mod base _ ds _)

theorem parseDigits_nil (B base : Nat) (v : List Nat) (any : Bool) :
    parseDigits B base [] v any = (v, any) := rfl

theorem validChar_of_none (base : Nat) (c : Char) (hd : digitValue c = none) :
    validChar base c = (c == '_') := by rw [validChar, hd, Bool.or_false]

theorem validChar_of_some (base : Nat) (c : Char) (d : Nat) (hd : digitValue c = some d) :
    validChar base c = (c == '_' || decide (d < base)) := by rw [validChar, hd]

theorem digitVals_cons_some (c : Char) (d : Nat) (cs : List Char) (h : digitValue c = some d) :
    digitVals (c :: cs) = d :: digitVals cs := by
  unfold digitVals; rw [List.filterMap_cons, h]

/-- the cases of the loop: `_` (skipped), not a digit or a digit not below the base (stop), a digit below the base
    (consumed) -/
theorem parseDigits_spec (B base : Nat) (cs : List Char) (v : List Nat) (any : Bool) :
    parseDigits B base cs v any
      = (mulAddAll B base (digitVals (cs.takeWhile (validChar base))) v,
         any || !(digitVals (cs.takeWhile (validChar base))).isEmpty) := by
  fun_induction parseDigits B base cs v any with
  | case1 v any => rw [List.takeWhile_nil, Bool.or_comm]; rfl
  | case2 c cs v any hc ih =>
    rw [ih, List.takeWhile_cons_of_pos (by rw [validChar, hc]; rfl), eq_of_beq hc]; rfl
  | case3 c cs v any hc hd =>
    rw [List.takeWhile_cons_of_neg (by rw [validChar_of_none base c hd]; exact hc), Bool.or_comm]; rfl
  | case4 c cs v any hc d hd hge =>
    rw [List.takeWhile_cons_of_neg (by
      rw [validChar_of_some base c d hd, eq_false_of_ne_true hc, decide_eq_false (Nat.not_lt.2 hge)]
      exact Bool.false_ne_true), Bool.or_comm]; rfl
  | case5 c cs v any hc d hd hlt ih =>
    rw [ih, List.takeWhile_cons_of_pos (by
      rw [validChar_of_some base c d hd, decide_eq_true (Nat.not_le.1 hlt)]; exact Bool.or_true _),
      digitVals_cons_some c d _ hd, Bool.true_or, Bool.or_comm]; rfl

theorem parseDigits_valid (B base : Nat) (cs : List Char) (v : List Nat) (any : Bool)
    (h : ∀ c ∈ cs, validChar base c = true) :
    parseDigits B base cs v any
      = (mulAddAll B base (digitVals cs) v, any || !(digitVals cs).isEmpty) := by
  have e : cs.takeWhile (validChar base) = cs := by
    simpa only [List.append_nil, List.takeWhile_nil] using List.takeWhile_append_of_pos (l₂ := []) h
  rw [parseDigits_spec, e]

/-- only the longest valid prefix matters: the loop `break`s at the first other char -/
theorem parseDigits_horner_prefix (B base : Nat) (hB : 0 < B) (cs : List Char) (v : List Nat) (any : Bool)
    (hv : Wf B v) :
    let ds := digitVals (cs.takeWhile (validChar base))
    (parseDigits B base cs v any).2 = (any || !ds.isEmpty)
    ∧ (parseDigits B base cs v any).1.length = v.length
    ∧ Wf B (parseDigits B base cs v any).1
    ∧ val B (parseDigits B base cs v any).1
        = (val B v * base ^ ds.length + horner base ds 0) % B ^ v.length := by
  intro ds
  rw [parseDigits_spec, mulAddAll_eq B base hB _ v hv, horner_init]
  exact ⟨rfl, ofNat_length, ofNat_wf B hB, val_ofNat _ _ _⟩

/-! ### sign / base prefix handling -/

theorem parseUint_nosign (B n : Nat) (allow : Bool) (c : Char) (cs : List Char)
    (hsp : isSpaceC c = false) (hp : c ≠ '+') (hm : c ≠ '-') {base : Nat} {rest : List Char} {v : List Nat}
    {any : Bool} (hb : parseBase (c :: cs) = (base, rest))
    (hd : parseDigits B base rest (zero n) false = (v, any)) :
    parseUint B n allow (c :: cs) = (any, v, false) := by
  have e : List.dropWhile isSpaceC (c :: cs) = c :: cs := by
    rw [List.dropWhile_cons, hsp]; rfl
  unfold parseUint
  simp only [e]
  split
  · next heq => exact absurd (List.cons.inj heq).1 hp
  · next heq => exact absurd (List.cons.inj heq).1 hm
  · simp only [Bool.false_and, Bool.false_eq_true, if_false, hb, hd]

theorem parseUint_minus (B n : Nat) {cs : List Char} {base : Nat} {rest : List Char} {v : List Nat} {any : Bool}
    (hb : parseBase cs = (base, rest)) (hd : parseDigits B base rest (zero n) false = (v, any)) :
    parseUint B n true ('-' :: cs) = (any, v, true) := by
  have e : List.dropWhile isSpaceC ('-' :: cs) = '-' :: cs := by
    rw [List.dropWhile_cons]; rfl
  unfold parseUint
  simp only [e, Bool.not_true, Bool.and_false, Bool.false_eq_true, if_false, hb, hd]

theorem parseBase_ten (s : List Char)
    (h : ∀ c rest, s = '0' :: c :: rest →
      (c == 'x' || c == 'X') = false ∧ (c == 'o' || c == 'O') = false ∧ (c == 'b' || c == 'B') = false) :
    parseBase s = (10, s) := by
  unfold parseBase
  split
  · next c rest =>
    obtain ⟨hx, ho, hb⟩ := h c rest rfl
    rw [hx, ho, hb]; rfl
  · rfl

theorem fromString_unsigned (B n : Nat) (str : List Char) :
    fromString B n false str
      = if (parseUint B n false str).1 = true then (parseUint B n false str).2.1 else zero n := by
  unfold fromString
  cases h : (parseUint B n false str).1 <;> simp [h]

/-! ### decimal strings -/

def decChars (ds : List Nat) : List Char := ds.map fun d => Char.ofNat (48 + d)

/-- what the parser sees in the character of a decimal digit -/
theorem decChar_facts : ∀ d : Fin 10,
    digitValue (Char.ofNat (48 + d.val)) = some d.val ∧ isSpaceC (Char.ofNat (48 + d.val)) = false
    ∧ Char.ofNat (48 + d.val) ≠ '+' ∧ Char.ofNat (48 + d.val) ≠ '-'
    ∧ (Char.ofNat (48 + d.val) == 'x' || Char.ofNat (48 + d.val) == 'X') = false
    ∧ (Char.ofNat (48 + d.val) == 'o' || Char.ofNat (48 + d.val) == 'O') = false
    ∧ (Char.ofNat (48 + d.val) == 'b' || Char.ofNat (48 + d.val) == 'B') = false := by decide

theorem decChars_nil : decChars [] = [] := rfl
theorem decChars_cons (d : Nat) (ds : List Nat) :
    decChars (d :: ds) = Char.ofNat (48 + d) :: decChars ds := rfl

theorem digitVals_decChars (ds : List Nat) (h : ∀ d ∈ ds, d < 10) : digitVals (decChars ds) = ds := by
  induction ds with
  | nil => rfl
  | cons d ds ih =>
    have hd := h d List.mem_cons_self
    rw [decChars_cons, digitVals_cons_some _ d _ (decChar_facts ⟨d, hd⟩).1,
      ih (fun x hx => h x (List.mem_cons_of_mem _ hx))]

theorem validChar_decChars (ds : List Nat) (h : ∀ d ∈ ds, d < 10) :
    ∀ c ∈ decChars ds, validChar 10 c = true := by
  intro c hc
  obtain ⟨d, hd, rfl⟩ := List.mem_map.1 hc
  have hd10 := h d hd
  simp [validChar, (decChar_facts ⟨d, hd10⟩).1, hd10]

theorem parseBase_decChars (ds : List Nat) (h : ∀ d ∈ ds, d < 10) :
    parseBase (decChars ds) = (10, decChars ds) := by
  refine parseBase_ten _ fun c rest heq => ?_
  match ds, h, heq with
  | [], _, heq => cases heq
  | [_], _, heq => nomatch (List.cons.inj heq).2
  | _ :: e :: _, h, heq =>
    rw [← (List.cons.inj (List.cons.inj heq).2).1]
    exact (decChar_facts ⟨e, h e (List.mem_cons_of_mem _ List.mem_cons_self)⟩).2.2.2.2

theorem parseDigits_decChars (B n : Nat) (hB : 0 < B) (ds : List Nat) (hne : ds ≠ []) (h : ∀ d ∈ ds, d < 10) :
    parseDigits B 10 (decChars ds) (zero n) false = (ofNat B n (horner 10 ds 0), true) := by
  rw [parseDigits_valid B 10 _ _ _ (validChar_decChars ds h), digitVals_decChars _ h,
    mulAddAll_eq B 10 hB ds _ (zero_wf B hB n), zero_length, val_zero]
  cases ds with
  | nil => exact absurd rfl hne
  | cons d ds => rfl

theorem fromString_decChars (B n : Nat) (hB : 0 < B) (signed : Bool) (ds : List Nat) (hne : ds ≠ [])
    (h : ∀ d ∈ ds, d < 10) :
    fromString B n signed (decChars ds) = ofNat B n (horner 10 ds 0) := by
  cases ds with
  | nil => exact absurd rfl hne
  | cons d ds =>
    obtain ⟨_, hsp, hp, hm, _⟩ := decChar_facts ⟨d, h d List.mem_cons_self⟩
    rw [fromString, decChars_cons, parseUint_nosign B n signed _ (decChars ds) hsp hp hm
      (parseBase_decChars (d :: ds) h) (parseDigits_decChars B n hB _ hne h)]
    simp

theorem fromString_minus_decChars (B n : Nat) (hB : 0 < B) (ds : List Nat) (hne : ds ≠ []) (h : ∀ d ∈ ds, d < 10) :
    fromString B n true ('-' :: decChars ds) = neg B (ofNat B n (horner 10 ds 0)) := by
  rw [fromString, parseUint_minus B n (parseBase_decChars ds h) (parseDigits_decChars B n hB ds hne h)]
  rfl

/-! ### printing -/

/-- ferret_limbs_to_decimal prints `[0]` for zero, else the decimal digits -/
theorem toDecimal_toList (B : Nat) (hB : 0 < B) (v : List Nat) (h80 : val B v < 10 ^ 80) :
    ∃ ds, (toDecimal B v).toList = decChars ds ∧ ds ≠ [] ∧ (∀ d ∈ ds, d < 10)
      ∧ horner 10 ds 0 = val B v := by
  unfold toDecimal
  cases hz : isZero v with
  | true =>
    rw [(isZero_iff B hB v).1 hz]
    simp only [if_true]
    exact ⟨[0], rfl, by simp, by simp, rfl⟩
  | false =>
    have h0 := (isZero_eq_false_iff B hB v).1 hz
    simp only [Bool.false_eq_true, if_false]
    rw [String.toList_ofList, toDecimalDigits_eq B hB 80 v [] h80, List.append_nil]
    exact ⟨digits10 (val B v), rfl, digits10_ne_nil _ h0, digits10_lt _, horner_digits10 _⟩

/-! ### round trip -/

/-- either signedness of the parser: the text carries no sign. `val B v < 10^80`: the 80-digit buffer of
    ferret_limbs_to_decimal suffices; true for every width up to 256 bits since 2^256 < 10^78 -/
theorem fromString_toDecimal (B n : Nat) (signed : Bool) (hB : 0 < B) (v : List Nat) (hv : Wf B v)
    (hn : v.length = n) (h80 : val B v < 10 ^ 80) :
    fromString B n signed (toDecimal B v).toList = v := by
  obtain ⟨ds, e, hne, hlt, hval⟩ := toDecimal_toList B hB v h80
  rw [e, fromString_decChars B n hB signed ds hne hlt, hval, ← hn, ofNat_val B v hv]

theorem fromString_toStringS_unsigned (B n : Nat) (hB : 0 < B) (v : List Nat) (hv : Wf B v)
    (hn : v.length = n) (hw : B ^ n ≤ 10 ^ 80) :
    fromString B n false (toStringS B false v).toList = v := by
  have e : toStringS B false v = toDecimal B v := by simp [toStringS]
  rw [e]
  exact fromString_toDecimal B n false hB v hv hn (Nat.lt_of_lt_of_le (hn ▸ val_lt hv) hw)

/-- including the most negative value, whose magnitude wraps to itself -/
theorem fromString_toStringS_signed (B n : Nat) (hB : 1 < B) (v : List Nat) (hv : Wf B v)
    (hn : v.length = n) (hw : B ^ n ≤ 10 ^ 80) :
    fromString B n true (toStringS B true v).toList = v := by
  have hB0 : 0 < B := by omega
  have hlt := hn ▸ val_lt hv
  unfold toStringS
  cases hneg : isNeg B v with
  | false =>
    simp only [Bool.and_false, Bool.false_eq_true, if_false]
    exact fromString_toDecimal B n true hB0 v hv hn (Nat.lt_of_lt_of_le hlt hw)
  | true =>
    simp only [Bool.and_true, if_true]
    have hw' : Wf B (neg B v) := neg_eq B hB v hv ▸ ofNat_wf B hB0
    have hl' : (neg B v).length = n := by rw [neg_eq B hB v hv, ofNat_length, hn]
    have h80 : val B (neg B v) < 10 ^ 80 := Nat.lt_of_lt_of_le (hl' ▸ val_lt hw') hw
    obtain ⟨ds, e, hne, hlt, hval⟩ := toDecimal_toList B hB0 (neg B v) h80
    have hs : ("-" ++ toDecimal B (neg B v)).toList = '-' :: decChars ds := by
      rw [String.toList_append, e]; rfl
    rw [hs, fromString_minus_decChars B n hB0 ds hne hlt, hval, ← hl', ofNat_val B _ hw', neg_neg B hB v hv]

/-! ### characters accepted by the digit loop (`digitValue`, `validChar` in terms of code points; the round trip does not rest on these) -/

theorem char_range (lo hi c : Char) : (lo ≤ c ∧ c ≤ hi) ↔ (lo.toNat ≤ c.toNat ∧ c.toNat ≤ hi.toNat) := by
  rw [Char.le_def, Char.le_def]
  simp only [UInt32.le_iff_toNat_le, Char.toNat_val]

theorem digitValue_eq (c : Char) :
    digitValue c =
      if 48 ≤ c.toNat ∧ c.toNat ≤ 57 then some (c.toNat - 48)
      else if 97 ≤ c.toNat ∧ c.toNat ≤ 102 then some (10 + (c.toNat - 97))
      else if 65 ≤ c.toNat ∧ c.toNat ≤ 70 then some (10 + (c.toNat - 65))
      else none := by
  unfold digitValue
  simp only [char_range, Char.reduceToNat]

theorem digitValue_lt_16 (c : Char) (d : Nat) (h : digitValue c = some d) : d < 16 := by
  rw [digitValue_eq] at h
  split at h
  · cases h; omega
  · split at h
    · cases h; omega
    · split at h
      · cases h; omega
      · cases h

theorem validChar_ten_iff (c : Char) : validChar 10 c = true ↔ (c = '_' ∨ ('0' ≤ c ∧ c ≤ '9')) := by
  simp only [char_range, Char.reduceToNat]
  by_cases hu : c = '_'
  · subst hu; simp [validChar]
  · have hne : (c == '_') = false := by simpa using hu
    rw [validChar, hne, Bool.false_or, digitValue_eq, or_iff_right hu]
    by_cases h1 : 48 ≤ c.toNat ∧ c.toNat ≤ 57
    · rw [if_pos h1, iff_true_right h1]; simp only [decide_eq_true_eq]; omega
    · -- no other digit is below 10
      rw [if_neg h1, iff_false_right h1]
      by_cases h2 : 97 ≤ c.toNat ∧ c.toNat ≤ 102
      · rw [if_pos h2]; simp only [decide_eq_true_eq]; omega
      · rw [if_neg h2]
        by_cases h3 : 65 ≤ c.toNat ∧ c.toNat ≤ 70
        · rw [if_pos h3]; simp only [decide_eq_true_eq]; omega
        · rw [if_neg h3]; exact Bool.false_ne_true

end FerretVerif.Limbs
