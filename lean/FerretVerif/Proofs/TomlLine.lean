/-
  C20, line side: inline comments and `parseLine` on a `key = value` line with any blanks around its parts
  and any comment after it.
-/
import FerretVerif.Proofs.TomlValue

namespace FerretVerif.Toml

/-! ## Inline comments -/

theorem stripLoop_quote (cs : List Char) (q : Bool) (acc : List Char) :
    stripLoop ('"' :: cs) q false acc = stripLoop cs (!q) false ('"' :: acc) := rfl

theorem stripLoop_hash (cs acc : List Char) : stripLoop ('#' :: cs) false false acc = acc.reverse := rfl

theorem stripLoop_other {c : Char} {q : Bool} (h1 : c ≠ '\\') (h2 : c ≠ '"') (h3 : q = false → c ≠ '#')
    (cs acc : List Char) : stripLoop (c :: cs) q false acc = stripLoop cs q false (c :: acc) := by
  have h4 : (c == '#' && !q) = false := by
    cases q
    · simp [h3 rfl]
    · exact Bool.and_false _
  show (if false = true then _ else if (c == '\\') = true then _ else if (c == '"') = true then _
    else if (c == '#' && !q) = true then _ else _) = _
  rw [if_neg Bool.false_ne_true, if_neg (by simpa using h1), if_neg (by simpa using h2), h4,
    if_neg Bool.false_ne_true]

theorem stripLoop_run (q : Bool) (xs rest acc : List Char) (h1 : '\\' ∉ xs) (h2 : '"' ∉ xs)
    (h3 : q = false → '#' ∉ xs) :
    stripLoop (xs ++ rest) q false acc = stripLoop rest q false (xs.reverse ++ acc) := by
  induction xs generalizing acc with
  | nil => rfl
  | cons x xs ih =>
    rw [List.cons_append, stripLoop_other (List.ne_of_not_mem_cons h1).symm (List.ne_of_not_mem_cons h2).symm
        fun hq => (List.ne_of_not_mem_cons (h3 hq)).symm,
      ih (x :: acc) (List.not_mem_of_not_mem_cons h1) (List.not_mem_of_not_mem_cons h2)
        fun hq => List.not_mem_of_not_mem_cons (h3 hq)]
    simp

theorem stripLoop_blanks {ws : List Char} (h : allSp ws) (r acc : List Char) :
    stripLoop (ws ++ r) false false acc = stripLoop r false false (ws.reverse ++ acc) :=
  stripLoop_run false _ r acc (not_mem_of_class h (by decide)) (not_mem_of_class h (by decide))
    fun _ => not_mem_of_class h (by decide)

theorem Token.stripLoop_append {t : List Char} (ht : Token t) (rest : List Char) :
    stripLoop (t ++ rest) false false [] = stripLoop rest false false t.reverse := by
  cases ht with
  | plain _ _ h1 h2 h3 => rw [stripLoop_run false t rest [] h1 h2 fun _ => h3, List.append_nil]
  | @quoted s h1 h2 _ =>
    have e : '"' :: s ++ ['"'] ++ rest = '"' :: (s ++ '"' :: rest) := by simp
    rw [e, stripLoop_quote, Bool.not_false, stripLoop_run true s _ _ h2 h1 nofun, stripLoop_quote]
    simp

/-- what may follow a value on its line -/
def Tail (rest : List Char) : Prop :=
  allSp rest ∨ ∃ ws c, allSp ws ∧ rest = ws ++ '#' :: c

theorem Tail.trimmed {rest : List Char} (h : Tail rest) : Tail (trimRight rest) := by
  rcases h with h | ⟨ws, c, h, rfl⟩
  · rw [trimRight_allSp h]; exact Or.inl allSp_nil
  · have e : ws ++ '#' :: c = ws ++ ['#'] ++ c := by simp
    rw [e, trimRight_append (by rw [List.getLast?_concat]; intro a ha; cases ha; decide)]
    exact Or.inr ⟨ws, trimRight c, h, by simp⟩

theorem stripInlineComment_token {t rest : List Char} (ht : Token t) (hr : Tail rest) :
    stripInlineComment (t ++ rest) = t := by
  -- after the token the loop meets blanks and then the end or `#`: it returns the token and those blanks
  obtain ⟨ws, hws, h⟩ : ∃ ws, allSp ws ∧ stripLoop rest false false t.reverse = (ws.reverse ++ t.reverse).reverse := by
    rcases hr with h | ⟨ws, c, h, rfl⟩
    · have := stripLoop_blanks h [] t.reverse
      rw [List.append_nil] at this
      exact ⟨rest, h, this⟩
    · exact ⟨ws, h, by rw [stripLoop_blanks h, stripLoop_hash]⟩
  rw [stripInlineComment, ht.stripLoop_append, h, List.reverse_append, List.reverse_reverse, List.reverse_reverse]
  exact trimSpace_tight ht.tight hws

/-! ## Line level -/

theorem splitEq_append {A : List Char} (h : '=' ∉ A) (B : List Char) :
    splitEq (A ++ '=' :: B) = some (A, B) := by
  induction A with
  | nil => rfl
  | cons a A ih =>
    show (if (a == '=') = true then _ else (splitEq (A ++ '=' :: B)).map _) = _
    rw [if_neg (by simpa using (List.ne_of_not_mem_cons h).symm), ih (List.not_mem_of_not_mem_cons h)]
    rfl

theorem parseLine_nil (pf : List Char → Bool) : parseLine pf [] = .skip := rfl

theorem parseLine_hash (pf : List Char → Bool) (c : List Char) : parseLine pf ('#' :: c) = .skip := rfl

theorem parseLine_section (pf : List Char → Bool) (n : List Char) :
    parseLine pf ('[' :: n ++ [']']) = .section (trimSpace n) := by
  have : (('[' :: n ++ [']']).drop 1).dropLast = n := List.dropLast_concat
  rw [parseLine, if_neg (by simp), if_pos (by rw [List.getLast?_concat]; rfl), this]

theorem parseLine_kv (pf : List Char → Bool) {k ws v : List Char} (hk : bareKey k = true) (hws : allSp ws) :
    parseLine pf (k ++ ws ++ '=' :: v) = .kv k (parseValue pf (stripInlineComment (trimSpace v))) := by
  obtain ⟨hne, hkc⟩ := bareKey_iff.mp hk
  have hs : splitEq (k ++ ws ++ '=' :: v) = some (k ++ ws, v) :=
    splitEq_append (fun h => (List.mem_append.mp h).elim (not_mem_of_class hkc (by decide))
      (not_mem_of_class hws (by decide))) v
  have hkt := (bareKey_token hk).tight
  -- the line starts with a key character: it is no comment and no header
  obtain ⟨a, r, rfl⟩ := List.exists_cons_of_ne_nil hne
  have ha : keyChar a = true := hkc a List.mem_cons_self
  rw [parseLine, if_neg (by simpa using fun e => absurd (e ▸ ha) (by decide)),
    if_neg (by simpa using fun e => absurd (e ▸ ha) (by decide)), hs]
  show Line.kv (trimSpace (a :: r ++ ws)) _ = _
  rw [trimSpace_tight hkt hws]

/-- a line containing `=` is never a syntax error (it is a comment, a header or a key/value) -/
theorem parseLine_ne_bad_of_eq (pf : List Char → Bool) {l : List Char} (h : '=' ∈ l) :
    parseLine pf l ≠ .bad := by
  obtain ⟨A, B, rfl, hA⟩ := List.eq_append_cons_of_mem h
  have hp := splitEq_append hA B
  unfold parseLine
  split
  · simp
  · split
    · simp
    · rw [hp]; simp

theorem parseLine_kv_token (pf : List Char → Bool) {ws1 k ws2 ws3 t rest : List Char}
    (hk : bareKey k = true) (ht : Token t) (h1 : allSp ws1) (h2 : allSp ws2) (h3 : allSp ws3)
    (hr : Tail rest) :
    parseLine pf (trimSpace (ws1 ++ k ++ ws2 ++ ['='] ++ ws3 ++ t ++ rest)) = .kv k (parseValue pf t) := by
  have e : ws1 ++ k ++ ws2 ++ ['='] ++ ws3 ++ t ++ rest = ws1 ++ (k ++ (ws2 ++ '=' :: ws3) ++ t) ++ rest := by
    simp
  have e' : k ++ (ws2 ++ '=' :: ws3) ++ t ++ trimRight rest = k ++ ws2 ++ '=' :: (ws3 ++ t ++ trimRight rest) := by
    simp
  -- each of the two `trimSpace_sandwich` steps leaves a `trimRight` on what follows the value
  rw [e, trimSpace_sandwich h1 (tight_wrap (bareKey_token hk).tight _ ht.tight), e', parseLine_kv pf hk h2,
    trimSpace_sandwich h3 ht.tight, stripInlineComment_token ht hr.trimmed.trimmed]

theorem parseLine_kv_formatValue (pf : List Char → Bool) (hpf : ∀ t, floatRaw t = true → pf t = true)
    {ws1 k ws2 ws3 rest : List Char} {v : WVal} (hk : bareKey k = true) (hv : writable v = true)
    (h1 : allSp ws1) (h2 : allSp ws2) (h3 : allSp ws3) (hr : Tail rest) :
    parseLine pf (trimSpace (ws1 ++ k ++ ws2 ++ ['='] ++ ws3 ++ formatValue v ++ rest))
      = .kv k (expectRead v) := by
  rw [← parseValue_formatValue pf hpf v hv]
  exact parseLine_kv_token pf hk (formatValue_token hv) h1 h2 h3 hr

theorem parseLine_formatLine (pf : List Char → Bool) (hpf : ∀ t, floatRaw t = true → pf t = true)
    {k : List Char} {v : WVal} (hk : bareKey k = true) (hv : writable v = true) :
    parseLine pf (trimSpace (k ++ " = ".toList ++ formatValue v)) = .kv k (expectRead v) := by
  have hsp : allSp [' '] := blanks_allSp (by decide)
  have := parseLine_kv_formatValue pf hpf (ws1 := []) (ws2 := [' ']) (ws3 := [' ']) (rest := [])
    hk hv allSp_nil hsp hsp (Or.inl allSp_nil)
  simpa using this

theorem parseLine_skip_tail (pf : List Char → Bool) {l : List Char} (h : Tail l) :
    parseLine pf (trimSpace l) = .skip := by
  rcases h with h | ⟨ws, c, h, rfl⟩
  · rw [trimSpace_allSp h, parseLine_nil]
  · have e : ws ++ '#' :: c = ws ++ ['#'] ++ c := by simp
    rw [e, trimSpace_sandwich h (tight_of_noSpace (by simp) (by decide))]
    exact parseLine_hash pf _

end FerretVerif.Toml
