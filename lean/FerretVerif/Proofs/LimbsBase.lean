/-
  What division, shifts and text conversion share: the `w`-bit window that straddles two limbs, the zero test, limb
  extraction and update, the digits of multiples and powers of two, the two's complement reading `toInt` with the signed
  range `-M ≤ 2 * x < M` that quotients and remainders stay in, and its canonical limbs `ofInt`.
-/
import FerretVerif.Proofs.Limbs
import FerretVerif.Proofs.TwoPow

namespace FerretVerif.Limbs

/-! ### powers of two, `|||` as addition, and the window across two limbs -/

theorem mod_mul_split {B M r q : Nat} (hr : r < B) : (r + B * q) % (B * M) = r + B * (q % M) := by
  rw [Nat.mod_mul, Nat.add_mul_mod_self_left, Nat.mod_eq_of_lt hr, Nat.add_mul_div_left _ _ (by omega : 0 < B),
      Nat.div_eq_of_lt hr, Nat.zero_add]

theorem lor_eq_add {x b k : Nat} (hx : x % 2 ^ k = 0) (hb : b < 2 ^ k) : x ||| b = x + b := by
  obtain ⟨q, rfl⟩ := Nat.dvd_of_mod_eq_zero hx
  exact (Nat.two_pow_add_eq_or_of_lt hb q).symm

theorem div_two_pow_lt (w bs lo : Nat) (hbs : bs ≤ w) (hlo : lo < 2 ^ w) : lo / 2 ^ bs < 2 ^ (w - bs) := by
  rw [Nat.div_lt_iff_lt_mul (Nat.two_pow_pos bs), Nat.pow_sub_mul_pow 2 hbs]; exact hlo

theorem div_window (w bs lo Y : Nat) (hbs : bs ≤ w) (hlo : lo < 2 ^ w) :
    (lo + 2 ^ w * Y) / 2 ^ bs % 2 ^ w = lo / 2 ^ bs + 2 ^ (w - bs) * (Y % 2 ^ bs) := by
  rw [← Nat.pow_sub_mul_pow 2 hbs, Nat.mul_right_comm, Nat.add_mul_div_right _ _ (Nat.two_pow_pos bs),
    mod_mul_split (div_two_pow_lt w bs lo hbs hlo)]

theorem or_window (w bs lo hi : Nat) (hbs : bs ≤ w) (hlo : lo < 2 ^ w) :
    lo / 2 ^ bs ||| (hi * 2 ^ (w - bs)) % 2 ^ w = lo / 2 ^ bs + 2 ^ (w - bs) * (hi % 2 ^ bs) := by
  rw [Nat.mul_comm hi, ← Nat.pow_sub_mul_pow 2 hbs, Nat.mul_mod_mul_left, Nat.or_comm,
    lor_eq_add (k := w - bs) (Nat.mul_mod_right _ _) (div_two_pow_lt w bs lo hbs hlo), Nat.add_comm]

/-- digit `j` of `X` shifted right by `bs` bits is the low limb `>>> bs` or-ed with the high limb `<<< (w - bs)`:
    `div_window` and `or_window` have the same right-hand side -/
theorem window_split (w X j bs : Nat) (hbs : bs ≤ w) :
    X / 2 ^ (w * j + bs) % 2 ^ w =
      (X / 2 ^ (w * j) % 2 ^ w) / 2 ^ bs ||| ((X / 2 ^ (w * (j + 1)) % 2 ^ w) * 2 ^ (w - bs)) % 2 ^ w := by
  have e1 : X / 2 ^ (w * (j + 1)) = X / 2 ^ (w * j) / 2 ^ w := by
    rw [Nat.mul_succ, Nat.pow_add, Nat.div_div_eq_div_mul]
  rw [or_window w bs _ _ hbs (Nat.mod_lt _ (Nat.two_pow_pos w)), Nat.mod_mod_of_dvd _ (Nat.pow_dvd_pow 2 hbs),
    ← div_window w bs _ _ hbs (Nat.mod_lt _ (Nat.two_pow_pos w)), e1, Nat.mod_add_div, Nat.pow_add,
    Nat.div_div_eq_div_mul]

/-! ### zero test -/

theorem isZero_iff (B : Nat) (hB : 0 < B) (l : List Nat) : isZero l = true ↔ val B l = 0 := by
  induction l with
  | nil => simp [isZero, val]
  | cons x xs ih =>
    have ih' : xs.all (· == 0) = true ↔ val B xs = 0 := ih
    simp only [isZero, List.all_cons, val_cons, Bool.and_eq_true, beq_iff_eq]
    rw [ih', Nat.add_eq_zero_iff, Nat.mul_eq_zero]
    constructor
    · rintro ⟨h1, h2⟩; exact ⟨h1, Or.inr h2⟩
    · rintro ⟨h1, h2 | h2⟩
      · omega
      · exact ⟨h1, h2⟩

theorem isZero_eq_false_iff (B : Nat) (hB : 0 < B) (l : List Nat) : isZero l = false ↔ val B l ≠ 0 := by
  rw [← Bool.not_eq_true, isZero_iff B hB]

/-! ### limb extraction and update -/

theorem limb_nil (i : Nat) : limb [] i = 0 := rfl
theorem limb_cons_zero (x : Nat) (xs : List Nat) : limb (x :: xs) 0 = x := rfl
theorem limb_cons_succ (x : Nat) (xs : List Nat) (i : Nat) : limb (x :: xs) (i + 1) = limb xs i := rfl

theorem limb_of_length_le (l : List Nat) (i : Nat) (h : l.length ≤ i) : limb l i = 0 := by
  induction l generalizing i with
  | nil => rfl
  | cons x xs ih =>
    cases i with
    | zero => exact absurd h (Nat.not_succ_le_zero _)
    | succ i => exact ih i (Nat.le_of_succ_le_succ h)

theorem limb_eq (B : Nat) (hB : 0 < B) (l : List Nat) (h : Wf B l) (i : Nat) :
    limb l i = (val B l / B ^ i) % B := by
  induction l generalizing i with
  | nil => rw [val_nil, Nat.zero_div, Nat.zero_mod]; rfl
  | cons x xs ih =>
    have hx := h.head
    cases i with
    | zero =>
      rw [limb_cons_zero, val_cons, Nat.pow_zero, Nat.div_one, Nat.add_mul_mod_self_left,
        Nat.mod_eq_of_lt hx]
    | succ i =>
      rw [limb_cons_succ, ih h.tail i, val_cons, Nat.pow_succ, Nat.mul_comm (B ^ i) B,
        ← Nat.div_div_eq_div_mul, Nat.add_mul_div_left _ _ hB, Nat.div_eq_of_lt hx, Nat.zero_add]

theorem eq_ofNat_of_limbs {B n V : Nat} {l : List Nat} (hn : l.length = n)
    (h : ∀ i, i < n → limb l i = (V / B ^ i) % B) : l = ofNat B n V := by
  subst hn
  induction l generalizing V with
  | nil => rfl
  | cons x xs ih =>
    have h0 := h 0 (Nat.succ_pos _)
    rw [limb_cons_zero, Nat.pow_zero, Nat.div_one] at h0
    rw [List.length_cons, ofNat_succ, ← h0, ← ih (V := V / B) fun i hi => ?_]
    rw [← limb_cons_succ x, h (i + 1) (Nat.succ_lt_succ hi), Nat.pow_succ, Nat.mul_comm (B ^ i) B,
      Nat.div_div_eq_div_mul]

theorem limb_map_range {n i : Nat} (f : Nat → Nat) (hi : i < n) : limb ((List.range n).map f) i = f i := by
  simp [limb, List.getD, hi]

theorem limb_replicate (n x i : Nat) : limb (List.replicate n x) i = if i < n then x else 0 := by
  simp only [limb, List.getD_eq_getElem?_getD, List.getElem?_replicate]
  split <;> rfl

theorem limb_zero (n i : Nat) : limb (zero n) i = 0 := (limb_replicate n 0 i).trans (ite_self 0)

theorem limb_set {l : List Nat} {j : Nat} (y i : Nat) (hj : j < l.length) :
    limb (l.set j y) i = if i = j then y else limb l i := by
  rw [limb, limb, List.getD_eq_getElem?_getD, List.getD_eq_getElem?_getD, List.getElem?_set, if_pos hj]
  split
  · next h => rw [if_pos h.symm]; rfl
  · next h => rw [if_neg (Ne.symm h)]

/-! ### digits of multiples and powers of two -/

theorem digit_mul_two_pow_low (A : Nat) {w s i : Nat} (h : w * (i + 1) ≤ s) :
    (A * 2 ^ s / 2 ^ (w * i)) % 2 ^ w = 0 := by
  obtain ⟨t, rfl⟩ : ∃ t, s = t + w + w * i := ⟨s - (w * i + w), by rw [Nat.mul_succ] at h; omega⟩
  rw [Nat.pow_add, ← Nat.mul_assoc, Nat.mul_div_cancel _ (Nat.two_pow_pos _), Nat.pow_add, ← Nat.mul_assoc,
    Nat.mul_mod_left]

theorem pow_bit_split (w bit : Nat) : 2 ^ bit = (2 ^ w) ^ (bit / w) * 2 ^ (bit % w) := by
  rw [← Nat.pow_mul, ← Nat.pow_add, Nat.div_add_mod]

theorem two_pow_digit (w bit i : Nat) (hw : 0 < w) :
    2 ^ bit / 2 ^ (w * i) % 2 ^ w = if i = bit / w then 2 ^ (bit % w) else 0 := by
  rcases Nat.lt_trichotomy i (bit / w) with h | h | h
  · have := digit_mul_two_pow_low 1 (Nat.mul_comm _ w ▸ (Nat.le_div_iff_mul_le hw).1 h)
    rw [if_neg (Nat.ne_of_lt h), ← this, Nat.one_mul]
  · rw [if_pos h, h, pow_bit_split w bit, ← Nat.pow_mul, Nat.mul_div_cancel_left _ (Nat.two_pow_pos _),
      Nat.mod_eq_of_lt (Nat.pow_lt_pow_right (by omega) (Nat.mod_lt _ hw))]
  · rw [if_neg (Nat.ne_of_gt h), Nat.div_eq_of_lt
      (Nat.pow_lt_pow_right (by omega) (Nat.mul_comm _ w ▸ (Nat.div_lt_iff_lt_mul hw).1 h)), Nat.zero_mod]

/-! ### signed interpretation -/

/-- two's complement value of a limb list -/
def toInt (B : Nat) (l : List Nat) : Int :=
  if isNeg B l then (val B l : Int) - ((B ^ l.length : Nat) : Int) else (val B l : Int)

theorem toInt_of_isNeg {B : Nat} {l : List Nat} (h : isNeg B l = true) :
    toInt B l = (val B l : Int) - ((B ^ l.length : Nat) : Int) := if_pos h

theorem toInt_of_not_isNeg {B : Nat} {l : List Nat} (h : isNeg B l = false) :
    toInt B l = (val B l : Int) := if_neg (by rw [h]; exact Bool.false_ne_true)

theorem getLastD_eq_limb (l : List Nat) : l.getLastD 0 = limb l (l.length - 1) := by
  rw [limb, List.getD_eq_getElem?_getD, List.getLastD_eq_getLast?, List.getLast?_eq_getElem?]

/-- all the sign test needs of the base is that it is even; the callers have `B = 2^w`, `H = 2^(w-1)` by `two_pow_even` -/
theorem isNeg_iff {B H : Nat} {l : List Nat} (hB : B = 2 * H) (hH : 0 < H) (h : Wf B l) :
    isNeg B l = true ↔ B ^ l.length ≤ 2 * val B l := by
  have hlt := val_lt h
  rw [isNeg, decide_eq_true_iff, getLastD_eq_limb]
  cases l with
  | nil =>
    show B ≤ 2 * 0 ↔ 1 ≤ 2 * 0
    omega
  | cons x xs =>
    have hB0 : 0 < B := by omega
    have hK : 0 < B ^ xs.length := Nat.pow_pos hB0
    rw [List.length_cons, Nat.pow_succ] at hlt ⊢
    rw [limb_eq B hB0 _ h, Nat.add_sub_cancel, Nat.mod_eq_of_lt (Nat.div_lt_of_lt_mul (Nat.mul_comm _ _ ▸ hlt))]
    -- the claim is `2 * H ≤ 2 * (v / K) ↔ K * (2 * H) ≤ 2 * v`: cancel the 2, move `K` across
    generalize val B (x :: xs) = v
    generalize B ^ xs.length = K at hK
    subst hB
    have e : K * (2 * H) = 2 * (H * K) := by rw [Nat.mul_left_comm, Nat.mul_comm K]
    rw [Nat.mul_le_mul_left_iff (by decide), Nat.le_div_iff_mul_le hK, e, Nat.mul_le_mul_left_iff (by decide)]

theorem toInt_lt_zero {B : Nat} {l : List Nat} (h : Wf B l) (hneg : isNeg B l = true) : toInt B l < 0 := by
  have hlt := val_lt h
  rw [toInt_of_isNeg hneg]
  omega

theorem toInt_nonneg {B : Nat} {l : List Nat} (hneg : isNeg B l = false) : 0 ≤ toInt B l := by
  rw [toInt_of_not_isNeg hneg]
  omega

theorem toInt_emod (B : Nat) (l : List Nat) (h : Wf B l) :
    toInt B l % ((B ^ l.length : Nat) : Int) = (val B l : Int) := by
  have e := Int.emod_eq_of_lt (Int.natCast_nonneg (val B l)) (Int.ofNat_lt.2 (val_lt h))
  unfold toInt
  split
  · rwa [Int.sub_emod_right]
  · exact e

theorem toInt_bounds {B H : Nat} {l : List Nat} (hB : B = 2 * H) (hH : 0 < H) (h : Wf B l) :
    -((B ^ l.length : Nat) : Int) ≤ 2 * toInt B l ∧ 2 * toInt B l < ((B ^ l.length : Nat) : Int) := by
  have hlt := val_lt h
  have hiff := isNeg_iff hB hH h
  cases hneg : isNeg B l with
  | true =>
    have := hiff.1 hneg
    rw [toInt_of_isNeg hneg]
    omega
  | false =>
    have : ¬ (B ^ l.length ≤ 2 * val B l) := fun hc => Bool.false_ne_true (hneg ▸ hiff.2 hc)
    rw [toInt_of_not_isNeg hneg]
    omega

/-! ### quotients and remainders of a number in the signed range `-M ≤ 2 * x < M` stay in it -/

/-- the range holds `-M/2` but not `M/2`, so for a negative `x` more is asked than `|y| ≤ |x|` -/
theorem range_of_natAbs_le {x y M : Int} (hx : -M ≤ 2 * x ∧ 2 * x < M) (hle : y.natAbs ≤ x.natAbs)
    (hs : x < 0 → y ≤ 0 ∨ 2 * y.natAbs ≤ x.natAbs) : -M ≤ 2 * y ∧ 2 * y < M := by
  omega

theorem tmod_bounds {a M : Int} (b : Int) (ha : -M ≤ 2 * a ∧ 2 * a < M) :
    -M ≤ 2 * Int.tmod a b ∧ 2 * Int.tmod a b < M :=
  range_of_natAbs_le ha (natAbs_tmod_le a b) fun h => Or.inl (tmod_nonpos b (Int.le_of_lt h))

theorem tdiv_bounds {a b M : Int} (ha : -M ≤ 2 * a ∧ 2 * a < M) (hov : ¬ (2 * a = -M ∧ b = -1)) :
    -M ≤ 2 * Int.tdiv a b ∧ 2 * Int.tdiv a b < M := by
  by_cases h1 : b = -1
  · subst h1
    rw [Int.tdiv_neg, Int.tdiv_one]
    omega
  · refine range_of_natAbs_le ha (Int.natAbs_tdiv_le_natAbs a b) fun hneg => ?_
    by_cases hb : 0 ≤ b
    · have := Int.tdiv_nonneg (Int.neg_nonneg_of_nonpos (Int.le_of_lt hneg)) hb
      rw [Int.neg_tdiv] at this
      exact Or.inl (Int.nonpos_of_neg_nonneg this)
    · -- `b ≤ -2`: the quotient is at most half the dividend in magnitude
      rw [Int.natAbs_tdiv]
      exact Or.inr (Nat.le_trans (Nat.mul_le_mul_left 2 (Nat.div_le_div_left (by omega : 2 ≤ b.natAbs) (by decide)))
        (Nat.mul_div_le _ _))

theorem ediv_bounds {x M d : Int} (hd : 0 < d) (hx : -M ≤ 2 * x ∧ 2 * x < M) :
    -M ≤ 2 * (x / d) ∧ 2 * (x / d) < M :=
  range_of_natAbs_le hx (Int.natAbs_ediv_le_natAbs x d) fun h => Or.inl (Int.le_of_lt (Int.ediv_neg_of_neg_of_pos h hd))

/-! ### canonical limbs of an integer -/

/-- limbs of `x mod B^n` for an integer `x`: two's complement when `x < 0` -/
def ofInt (B n : Nat) (x : Int) : List Nat := ofNat B n (x % ((B ^ n : Nat) : Int)).toNat

theorem ofInt_length (B n : Nat) (x : Int) : (ofInt B n x).length = n := ofNat_length

theorem ofInt_wf (B : Nat) (hB : 0 < B) (n : Nat) (x : Int) : Wf B (ofInt B n x) := ofNat_wf B hB

theorem val_ofInt (B : Nat) (hB : 0 < B) (n : Nat) (x : Int) :
    val B (ofInt B n x) = (x % ((B ^ n : Nat) : Int)).toNat := by
  have hM : 0 < B ^ n := Nat.pow_pos hB
  exact val_ofNat_of_lt ((Int.toNat_lt' hM).2 (Int.emod_lt_of_pos x (Int.natCast_pos.2 hM)))

theorem val_ofInt_cast (B : Nat) (hB : 0 < B) (n : Nat) (x : Int) :
    (val B (ofInt B n x) : Int) = x % ((B ^ n : Nat) : Int) := by
  rw [val_ofInt B hB, Int.toNat_of_nonneg (Int.emod_nonneg _ (Int.natCast_ne_zero_iff_pos.2 (Nat.pow_pos hB)))]

theorem ofInt_congr (B n : Nat) {x y : Int} (h : x % ((B ^ n : Nat) : Int) = y % ((B ^ n : Nat) : Int)) :
    ofInt B n x = ofInt B n y := by
  rw [ofInt, h, ofInt]

theorem ofInt_natCast (B n v : Nat) : ofInt B n (v : Int) = ofNat B n v := by
  rw [ofInt, ← Int.natCast_emod, Int.toNat_natCast, ofNat_mod]

theorem ofInt_toInt (B : Nat) (l : List Nat) (h : Wf B l) : ofInt B l.length (toInt B l) = l := by
  rw [ofInt, toInt_emod B l h, Int.toNat_natCast, ofNat_val B l h]

theorem toInt_ofInt {B H n : Nat} {x : Int} (hB : B = 2 * H) (hH : 0 < H)
    (hx : -((B ^ n : Nat) : Int) ≤ 2 * x ∧ 2 * x < ((B ^ n : Nat) : Int)) :
    toInt B (ofInt B n x) = x := by
  have hB0 : 0 < B := by omega
  have hwf := ofInt_wf B hB0 n x
  have hb := toInt_bounds hB hH hwf
  have e := toInt_emod B _ hwf
  rw [ofInt_length] at hb e
  rw [Int.mul_comm] at hb hx
  -- both sides lie in the balanced range and have the same residue
  rw [← Int.bmod_eq_of_le_mul_two hb.1 hb.2, ← Int.emod_bmod, e, val_ofInt_cast B hB0, Int.emod_bmod,
    Int.bmod_eq_of_le_mul_two hx.1 hx.2]

theorem neg_ofInt (B : Nat) (hB : 1 < B) (n : Nat) (x : Int) : neg B (ofInt B n x) = ofInt B n (-x) := by
  have hB0 : 0 < B := by omega
  have hwf := ofInt_wf B hB0 n x
  have hlt := val_lt hwf
  rw [ofInt_length] at hlt
  rw [neg_eq B hB _ hwf, ofInt_length, ← ofInt_natCast]
  apply ofInt_congr
  rw [Int.natCast_sub (Nat.le_of_lt hlt), val_ofInt_cast B hB0, Int.sub_emod_emod, Int.sub_emod_left]

theorem neg_neg (B : Nat) (hB : 1 < B) (v : List Nat) (hv : Wf B v) : neg B (neg B v) = v := by
  rw [← ofInt_toInt B v hv, neg_ofInt B hB, neg_ofInt B hB, Int.neg_neg]

end FerretVerif.Limbs
