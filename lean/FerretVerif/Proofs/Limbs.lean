/-
  The unsigned limb algorithms, for every base B and length n. Each loop of the runtime that computes a number is shown
  to produce `ofNat B n v`, the canonical limbs of the exact result `v` reduced modulo `B^n`; length, well-formedness
  and value of the result are read off that one equation. `addc_length` (no `0 < B`) and `addc_wf` (no equal lengths) ask
  less than the equation and have inductions of their own. `divSmall` has no such equation: it recurses from the top limb
  and its quotient is canonical only for a `Wf` input; it has `divSmall_spec`, `divSmall_val` and `divSmall_wf`.
-/
import FerretVerif.Model.Limbs

namespace FerretVerif.Limbs

theorem val_nil (B : Nat) : val B [] = 0 := rfl
theorem val_cons (B x : Nat) (xs : List Nat) : val B (x :: xs) = x + B * val B xs := rfl

theorem val_append (B : Nat) (a b : List Nat) : val B (a ++ b) = val B a + B ^ a.length * val B b := by
  induction a with
  | nil => rw [List.nil_append, val_nil, List.length_nil, Nat.pow_zero, Nat.one_mul, Nat.zero_add]
  | cons x xs ih =>
    rw [List.cons_append, val_cons, val_cons, ih, List.length_cons, Nat.pow_succ', Nat.mul_add, Nat.mul_assoc,
      Nat.add_assoc]

theorem Wf.nil {B : Nat} : Wf B [] := fun _ h => nomatch h
theorem Wf.tail {B x : Nat} {xs : List Nat} (h : Wf B (x :: xs)) : Wf B xs :=
  fun y hy => h y (List.mem_cons_of_mem _ hy)
theorem Wf.head {B x : Nat} {xs : List Nat} (h : Wf B (x :: xs)) : x < B :=
  h x (List.mem_cons_self)
theorem Wf.cons {B x : Nat} {xs : List Nat} (hx : x < B) (h : Wf B xs) : Wf B (x :: xs) := by
  intro y hy
  rcases List.mem_cons.1 hy with rfl | hy
  · exact hx
  · exact h y hy

theorem Wf.append {B : Nat} {a b : List Nat} (ha : Wf B a) (hb : Wf B b) : Wf B (a ++ b) :=
  fun x hx => (List.mem_append.1 hx).elim (ha x) (hb x)

theorem Wf.replicate {B x : Nat} (n : Nat) (hx : x < B) : Wf B (List.replicate n x) :=
  fun _ hy => (List.mem_replicate.1 hy).2 ▸ hx

/-! ### canonical limbs -/

theorem ofNat_succ (B n v : Nat) : ofNat B (n + 1) v = (v % B) :: ofNat B n (v / B) := rfl

theorem ofNat_length {B n v : Nat} : (ofNat B n v).length = n := by
  induction n generalizing v with
  | zero => rfl
  | succ n ih => rw [ofNat_succ, List.length_cons, ih]

theorem ofNat_wf (B : Nat) (hB : 0 < B) {n v : Nat} : Wf B (ofNat B n v) := by
  induction n generalizing v with
  | zero => exact Wf.nil
  | succ n ih => exact Wf.cons (Nat.mod_lt _ hB) ih

theorem val_ofNat (B n v : Nat) : val B (ofNat B n v) = v % B ^ n := by
  induction n generalizing v with
  | zero => rw [Nat.pow_zero, Nat.mod_one]; rfl
  | succ n ih => rw [ofNat_succ, val_cons, ih, Nat.pow_succ, Nat.mul_comm (B ^ n) B, Nat.mod_mul]

/-- the step of every carry loop -/
theorem ofNat_add_mul (B : Nat) (hB : 0 < B) (n x y : Nat) :
    ofNat B (n + 1) (x + B * y) = (x % B) :: ofNat B n (y + x / B) := by
  rw [ofNat_succ, Nat.add_mul_mod_self_left, Nat.add_mul_div_left _ _ hB, Nat.add_comm]

theorem ofNat_val (B : Nat) (l : List Nat) (h : Wf B l) : ofNat B l.length (val B l) = l := by
  induction l with
  | nil => rfl
  | cons x xs ih =>
    have hx := h.head
    rw [List.length_cons, val_cons, ofNat_add_mul B (by omega), Nat.mod_eq_of_lt hx, Nat.div_eq_of_lt hx,
      Nat.add_zero, ih h.tail]

theorem val_lt {B : Nat} {l : List Nat} (h : Wf B l) : val B l < B ^ l.length := by
  rcases Nat.eq_zero_or_pos B with rfl | hB
  · cases l with
    | nil => exact Nat.one_pos
    | cons x xs => exact absurd h.head (Nat.not_lt_zero _)
  · rw [← ofNat_val B l h, val_ofNat, ofNat_length]
    exact Nat.mod_lt _ (Nat.pow_pos hB)

theorem val_ofNat_of_lt {B n v : Nat} (h : v < B ^ n) : val B (ofNat B n v) = v := by
  rw [val_ofNat, Nat.mod_eq_of_lt h]

theorem ofNat_mod (B n v : Nat) : ofNat B n (v % B ^ n) = ofNat B n v := by
  induction n generalizing v with
  | zero => rfl
  | succ n ih =>
    rw [ofNat_succ, ofNat_succ, Nat.pow_succ, Nat.mul_comm (B ^ n) B, Nat.mod_mul_right_mod,
      Nat.mod_mul_right_div_self, ih]

theorem ofNat_congr (B n : Nat) {u v : Nat} (h : u % B ^ n = v % B ^ n) : ofNat B n u = ofNat B n v := by
  rw [← ofNat_mod B n u, h, ofNat_mod]

theorem ofNat_zero (B n : Nat) : ofNat B n 0 = zero n := by
  induction n with
  | zero => rfl
  | succ n ih => rw [ofNat_succ, Nat.zero_mod, Nat.zero_div, ih]; rfl

theorem zero_length (n : Nat) : (zero n).length = n := List.length_replicate

theorem zero_wf (B : Nat) (hB : 0 < B) (n : Nat) : Wf B (zero n) := Wf.replicate n hB

theorem val_zero (B n : Nat) : val B (zero n) = 0 := by
  rw [← ofNat_zero B, val_ofNat, Nat.zero_mod]

theorem eq_zero_of_val_eq_zero (B : Nat) (v : List Nat) (hv : Wf B v) (h0 : val B v = 0) :
    v = zero v.length := by
  rw [← ofNat_zero B, ← h0, ofNat_val B v hv]

/-! ### addition -/

theorem addc_length (B : Nat) (as bs : List Nat) (c : Nat) (h : as.length = bs.length) :
    (addc B as bs c).length = as.length := by
  induction as generalizing bs c with
  | nil => cases bs <;> rfl
  | cons a as ih =>
    cases bs with
    | nil => exact absurd h (Nat.succ_ne_zero _)
    | cons b bs => rw [addc, List.length_cons, ih bs _ (Nat.succ.inj h), List.length_cons]

theorem addc_wf (B : Nat) (hB : 0 < B) (as bs : List Nat) (c : Nat) : Wf B (addc B as bs c) := by
  induction as generalizing bs c with
  | nil => cases bs <;> exact Wf.nil
  | cons a as ih =>
    cases bs with
    | nil => exact Wf.nil
    | cons b bs => exact Wf.cons (Nat.mod_lt _ hB) (ih bs _)

theorem addc_eq (B : Nat) (hB : 0 < B) (as bs : List Nat) (c : Nat) (h : as.length = bs.length) :
    addc B as bs c = ofNat B as.length (val B as + val B bs + c) := by
  induction as generalizing bs c with
  | nil => cases bs <;> rfl
  | cons a as ih =>
    cases bs with
    | nil => exact absurd h (Nat.succ_ne_zero _)
    | cons b bs =>
      have e : val B (a :: as) + val B (b :: bs) + c = (a + b + c) + B * (val B as + val B bs) := by
        rw [val_cons, val_cons, Nat.mul_add, Nat.add_add_add_comm, Nat.add_right_comm]
      rw [addc, List.length_cons, e, ofNat_add_mul B hB, ih bs _ (Nat.succ.inj h)]

theorem add_eq (B : Nat) (hB : 0 < B) (a b : List Nat) (h : a.length = b.length) :
    add B a b = ofNat B a.length (val B a + val B b) := addc_eq B hB a b 0 h

/-! ### subtraction and negation: addition of the complement -/

theorem bitNot_length (B : Nat) (v : List Nat) : (bitNot B v).length = v.length := List.length_map _

theorem bitNot_cons (B x : Nat) (xs : List Nat) : bitNot B (x :: xs) = (B - 1 - x) :: bitNot B xs := rfl

theorem val_bitNot (B : Nat) (v : List Nat) (hv : Wf B v) : val B (bitNot B v) + val B v + 1 = B ^ v.length := by
  induction v with
  | nil => rfl
  | cons x xs ih =>
    have hx := hv.head
    rw [bitNot_cons, val_cons, val_cons, List.length_cons, Nat.pow_succ, ← ih hv.tail, Nat.mul_comm _ B,
      Nat.mul_add, Nat.mul_add]
    omega

/-- one limb of ferret_sub_limbs is one limb of `a + ~b + (1 - borrow)`; the borrow out is the missing carry -/
theorem sub_limb (B a b br : Nat) (ha : a < B) (hb : b < B) (hbr : br ≤ 1) :
    (a + B - (b + br) % B) % B = (a + (B - 1 - b) + (1 - br)) % B ∧
    1 - (if (b + br) % B < br ∨ a < (b + br) % B then 1 else 0) = (a + (B - 1 - b) + (1 - br)) / B := by
  have es : a + (B - 1 - b) + (1 - br) = a + B - (b + br) := by omega
  rw [es]
  clear es
  rcases Nat.lt_or_ge (b + br) B with h | h
  · rw [Nat.mod_eq_of_lt h]
    refine ⟨rfl, ?_⟩
    rcases Nat.lt_or_ge a (b + br) with h2 | h2
    · rw [if_pos (Or.inr h2), Nat.div_eq_of_lt (by omega)]
    · -- no borrow: the sum is `a - (b + br) + B`, one carry
      rw [if_neg fun hc => hc.elim (Nat.not_lt.2 (Nat.le_add_left br b)) (Nat.not_lt.2 h2), Nat.sub_add_comm h2,
        Nat.add_div_right _ (Nat.lt_of_le_of_lt (Nat.zero_le a) ha),
        Nat.div_eq_of_lt (Nat.lt_of_le_of_lt (Nat.sub_le _ _) ha)]
  · -- `b + br` wraps to 0: `br = 1`, the borrow stays
    have e : b + br = B := by omega
    have hbr1 : 0 < br := by omega
    rw [e, Nat.mod_self, Nat.sub_zero, Nat.add_sub_cancel, Nat.add_mod_right, if_pos (Or.inl hbr1),
      Nat.div_eq_of_lt ha]
    exact ⟨rfl, rfl⟩

theorem subb_eq_addc (B : Nat) (as bs : List Nat) (br : Nat) (hbr : br ≤ 1)
    (ha : Wf B as) (hb : Wf B bs) : subb B as bs br = addc B as (bitNot B bs) (1 - br) := by
  induction as generalizing bs br with
  | nil => cases bs <;> rfl
  | cons a as ih =>
    cases bs with
    | nil => rfl
    | cons b bs =>
      obtain ⟨e1, e2⟩ := sub_limb B a b br ha.head hb.head hbr
      rw [subb, bitNot_cons, addc, e1, ← e2, ih bs _ (by split <;> omega) ha.tail hb.tail]

theorem sub_eq (B : Nat) (hB : 0 < B) (a b : List Nat) (h : a.length = b.length) (ha : Wf B a) (hb : Wf B b) :
    sub B a b = ofNat B a.length (val B a + B ^ a.length - val B b) := by
  have hc := val_bitNot B b hb
  rw [sub, subb_eq_addc B a b 0 (Nat.zero_le 1) ha hb, addc_eq B hB a _ _ (by rw [bitNot_length, h]), h, ← hc,
    Nat.add_right_comm _ (val B b), ← Nat.add_assoc, Nat.add_sub_cancel, Nat.add_assoc]

/-- the carry test of ferret_negate_limbs (`sum < inv`) is the carry out of `inv + c` -/
theorem neg_carry (B inv c : Nat) (hB : 1 < B) (hi : inv < B) (hc : c ≤ 1) :
    (if (inv + c) % B < inv then 1 else 0) = (inv + c) / B := by
  rcases Nat.lt_or_ge (inv + c) B with h | h
  · rw [Nat.mod_eq_of_lt h, Nat.div_eq_of_lt h, if_neg (by omega)]
  · have e : inv + c = B := by omega
    rw [e, Nat.mod_self, Nat.div_self (by omega), if_pos (by omega)]

theorem negc_eq_addc (B : Nat) (hB : 1 < B) (vs : List Nat) (c : Nat) (hc : c ≤ 1) (hv : Wf B vs) :
    negc B vs c = addc B (bitNot B vs) (zero vs.length) c := by
  induction vs generalizing c with
  | nil => rfl
  | cons v vs ih =>
    have hx := hv.head
    have hc' := neg_carry B (B - 1 - v) c hB (by omega) hc
    rw [negc, hc', ih _ (by rw [← hc']; split <;> omega) hv.tail]
    rfl

theorem neg_eq (B : Nat) (hB : 1 < B) (v : List Nat) (hv : Wf B v) :
    neg B v = ofNat B v.length (B ^ v.length - val B v) := by
  have hc := val_bitNot B v hv
  rw [neg, negc_eq_addc B hB v 1 (Nat.le_refl 1) hv,
    addc_eq B (by omega) _ _ _ (by rw [bitNot_length, zero_length]), bitNot_length, val_zero, ← hc,
    Nat.add_right_comm _ (val B v), Nat.add_sub_cancel]

/-! ### multiplication -/

theorem mulRow_eq (B a : Nat) (hB : 0 < B) (bs os : List Nat) (c : Nat) (h : os.length ≤ bs.length) :
    mulRow B a bs os c = ofNat B os.length (val B os + a * val B bs + c) := by
  induction os generalizing bs c with
  | nil => cases bs <;> rfl
  | cons o os ih =>
    cases bs with
    | nil => exact absurd h (Nat.not_succ_le_zero _)
    | cons b bs =>
      have e : val B (o :: os) + a * val B (b :: bs) + c
          = (a * b + o + c) + B * (val B os + a * val B bs) := by
        rw [val_cons, val_cons, Nat.mul_add a, Nat.mul_left_comm a B, Nat.add_add_add_comm, ← Nat.mul_add,
          Nat.add_right_comm, Nat.add_comm o]
      rw [mulRow, List.length_cons, e, ofNat_add_mul B hB, ih bs _ (Nat.le_of_succ_le_succ h)]

theorem mulLoop_eq (B : Nat) (hB : 0 < B) (as b out : List Nat) (h : as.length = out.length)
    (hb : out.length ≤ b.length) :
    mulLoop B as b out = ofNat B out.length (val B out + val B as * val B b) := by
  induction as generalizing out with
  | nil =>
    cases out with
    | nil => rfl
    | cons o os => exact absurd h.symm (Nat.succ_ne_zero _)
  | cons a as ih =>
    cases out with
    | nil => exact absurd h (Nat.succ_ne_zero _)
    | cons o os =>
      -- the row is canonical, so its tail is the canonical list of the carried value
      rw [mulLoop, mulRow_eq B a hB b (o :: os) 0 hb, List.length_cons, ofNat_succ]
      simp only []  -- the `match` on the row, a cons
      rw [ih _ (by rw [ofNat_length]; exact Nat.succ.inj h) (by rw [ofNat_length]; exact Nat.le_of_succ_le hb),
        ofNat_length, val_ofNat]
      have e : val B (o :: os) + val B (a :: as) * val B b
          = (val B (o :: os) + a * val B b + 0) + B * (val B as * val B b) := by
        rw [val_cons B a, Nat.add_mul, Nat.mul_assoc, ← Nat.add_assoc]; rfl
      rw [e, ofNat_add_mul B hB]
      congr 1
      apply ofNat_congr
      rw [Nat.add_mod, Nat.mod_mod, ← Nat.add_mod, Nat.add_comm]

theorem mul_eq (B : Nat) (hB : 0 < B) (a b : List Nat) (h : a.length = b.length) :
    mul B a b = ofNat B a.length (val B a * val B b) := by
  rw [mul, mulLoop_eq B hB a b _ (zero_length _).symm (by rw [zero_length, h]; exact Nat.le_refl _),
    zero_length, val_zero, Nat.zero_add]

theorem mul_ofNat (B : Nat) (hB : 0 < B) (n a b : Nat) : mul B (ofNat B n a) (ofNat B n b) = ofNat B n (a * b) := by
  rw [mul_eq B hB _ _ (by rw [ofNat_length, ofNat_length]), ofNat_length, val_ofNat, val_ofNat]
  exact ofNat_congr B n (Nat.mul_mod _ _ _).symm

/-! ### multiplication and division by a small number -/

theorem mulAddSmall_eq (B base : Nat) (hB : 0 < B) (vs : List Nat) (c : Nat) :
    mulAddSmall B base vs c = ofNat B vs.length (val B vs * base + c) := by
  induction vs generalizing c with
  | nil => rfl
  | cons v vs ih =>
    have e : val B (v :: vs) * base + c = (v * base + c) + B * (val B vs * base) := by
      rw [val_cons, Nat.add_mul, Nat.mul_assoc, Nat.add_right_comm]
    rw [mulAddSmall, List.length_cons, e, ofNat_add_mul B hB, ih]

theorem mulAddSmall_spec (B base : Nat) (hB : 0 < B) (vs : List Nat) (c : Nat) :
    val B (mulAddSmall B base vs c) = (val B vs * base + c) % B ^ vs.length := by
  rw [mulAddSmall_eq B base hB, val_ofNat]

theorem divSmall_fst_cons (B d v : Nat) (vs : List Nat) :
    (divSmall B d (v :: vs)).1 = (((divSmall B d vs).2 * B + v) / d) :: (divSmall B d vs).1 := rfl

theorem divSmall_snd_cons (B d v : Nat) (vs : List Nat) :
    (divSmall B d (v :: vs)).2 = ((divSmall B d vs).2 * B + v) % d := rfl

theorem divSmall_length (B d : Nat) (vs : List Nat) : (divSmall B d vs).1.length = vs.length := by
  induction vs with
  | nil => rfl
  | cons v vs ih => rw [divSmall_fst_cons, List.length_cons, ih, List.length_cons]

theorem divSmall_spec (B d : Nat) (hd : 0 < d) (vs : List Nat) :
    val B (divSmall B d vs).1 * d + (divSmall B d vs).2 = val B vs ∧ (divSmall B d vs).2 < d := by
  induction vs with
  | nil => exact ⟨Nat.zero_mul d, hd⟩
  | cons v vs ih =>
    refine ⟨?_, Nat.mod_lt _ hd⟩
    simp only [divSmall, val_cons]
    -- quotient limb and remainder reassemble `rem * B + v`; the rest is the hypothesis times `B`
    rw [← ih.1, Nat.add_mul, Nat.add_right_comm, Nat.div_add_mod', Nat.mul_add, Nat.mul_assoc, Nat.mul_comm _ B,
      Nat.add_comm, ← Nat.add_assoc, Nat.add_comm]

theorem divSmall_val (B d : Nat) (hd : 0 < d) (vs : List Nat) :
    val B (divSmall B d vs).1 = val B vs / d ∧ (divSmall B d vs).2 = val B vs % d := by
  obtain ⟨h1, h2⟩ := divSmall_spec B d hd vs
  rw [Nat.add_comm, Nat.mul_comm] at h1
  obtain ⟨hq, hr⟩ := (Nat.div_mod_unique hd).2 ⟨h1, h2⟩
  exact ⟨hq.symm, hr.symm⟩

theorem divSmall_wf (B d : Nat) (hd : 0 < d) (vs : List Nat) (h : Wf B vs) :
    Wf B (divSmall B d vs).1 := by
  induction vs with
  | nil => exact Wf.nil
  | cons v vs ih =>
    rw [divSmall_fst_cons]
    refine Wf.cons ?_ (ih h.tail)
    have hr := (divSmall_spec B d hd vs).2
    have hv := h.head
    generalize (divSmall B d vs).2 = rem at *
    rw [Nat.div_lt_iff_lt_mul hd]
    have : (rem + 1) * B ≤ d * B := Nat.mul_le_mul_right _ hr
    rw [Nat.add_mul, Nat.one_mul] at this
    rw [Nat.mul_comm B d]
    omega

/-! ### comparison -/

theorem compare_add_mul {B a b x y : Nat} (ha : a < B) (hb : b < B) :
    compare (a + B * x) (b + B * y) = (compare x y).then (compare a b) := by
  -- a smaller high part decides, whatever the low parts below `B`
  have key : ∀ {a b x y : Nat}, a < B → x < y → a + B * x < b + B * y := fun {a b x y} ha h =>
    Nat.lt_of_lt_of_le (Nat.add_lt_add_right ha _)
      (Nat.le_trans (Nat.add_comm B _ ▸ Nat.mul_succ B x ▸ Nat.mul_le_mul_left B (Nat.succ_le_of_lt h))
        (Nat.le_add_left _ _))
  rcases Nat.lt_trichotomy x y with h | rfl | h
  · rw [Nat.compare_eq_lt.2 h, Nat.compare_eq_lt.2 (key ha h)]; rfl
  · rw [Nat.compare_eq_eq.2 rfl, Ordering.eq_then]
    rcases Nat.lt_trichotomy a b with h | rfl | h
    · rw [Nat.compare_eq_lt.2 h, Nat.compare_eq_lt.2 (Nat.add_lt_add_right h _)]
    · rw [Nat.compare_eq_eq.2 rfl, Nat.compare_eq_eq.2 rfl]
    · rw [Nat.compare_eq_gt.2 h, Nat.compare_eq_gt.2 (Nat.add_lt_add_right h _)]
  · rw [Nat.compare_eq_gt.2 h, Nat.compare_eq_gt.2 (key hb h)]; rfl

theorem cmpU_eq (B : Nat) (as bs : List Nat) (h : as.length = bs.length) (ha : Wf B as) (hb : Wf B bs) :
    cmpU as bs = compare (val B as) (val B bs) := by
  induction as generalizing bs with
  | nil =>
    cases bs with
    | nil => rfl
    | cons b bs => exact absurd h.symm (Nat.succ_ne_zero _)
  | cons a as ih =>
    cases bs with
    | nil => exact absurd h (Nat.succ_ne_zero _)
    | cons b bs =>
      rw [cmpU, ih bs (Nat.succ.inj h) ha.tail hb.tail, val_cons, val_cons, compare_add_mul ha.head hb.head]
      cases compare (val B as) (val B bs) <;> rfl

end FerretVerif.Limbs
