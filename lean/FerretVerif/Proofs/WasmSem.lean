/-
  The symbolic stack evaluation `toSsa` is sound: running the stack code on values is running the three-address code it
  produces (`toSsa_sound`); hence a wasm row whose three-address form is a sequence of `QbeSem.expectedSeq` computes the
  row's specification (`wrow_correct`).
-/
import FerretVerif.Model.WasmSem
import FerretVerif.Proofs.QbeSem

namespace FerretVerif.WasmSem
open FerretVerif.QbeSem

/-! ### symbolic operands and the values they denote -/

/-- a list of symbolic operands denotes a list of values under the temporaries `tmps` -/
def evs (params tmps : List Nat) : List Arg → List Nat → Prop
  | [], [] => True
  | a :: as, v :: vs => argVal params tmps a = some v ∧ evs params tmps as vs
  | _, _ => False

/-- `evs` is recursive so that `toSsa_sound` takes a hypothesis apart by `.1`, `.2`; in this form `evs_get`, `evs_set` and
    `evs_append` are facts about `List.map` -/
theorem evs_iff {params tmps : List Nat} : ∀ {ss : List Arg} {cs : List Nat},
    evs params tmps ss cs ↔ ss.map (argVal params tmps) = cs.map some
  | [], [] => ⟨fun _ => rfl, fun _ => trivial⟩
  | [], _ :: _ => ⟨False.elim, nofun⟩
  | _ :: _, [] => ⟨False.elim, nofun⟩
  | a :: as, v :: vs => by
    show _ ∧ evs params tmps as vs ↔ _ :: _ = _ :: _
    rw [List.cons.injEq, evs_iff]

theorem evs_length {params tmps : List Nat} {ss : List Arg} {cs : List Nat} (h : evs params tmps ss cs) :
    ss.length = cs.length := by
  simpa using congrArg List.length (evs_iff.mp h)

theorem evs_get {params tmps : List Nat} {ss : List Arg} {cs : List Nat} {i : Nat} {a : Arg} (h : evs params tmps ss cs)
    (hi : ss[i]? = some a) : ∃ v, cs[i]? = some v ∧ argVal params tmps a = some v := by
  have := congrArg (·[i]?) (evs_iff.mp h)
  simp only [List.getElem?_map, hi, Option.map_some] at this
  obtain ⟨v, hv, e⟩ := Option.map_eq_some_iff.mp this.symm
  exact ⟨v, hv, e.symm⟩

theorem evs_set {params tmps : List Nat} {ss : List Arg} {cs : List Nat} (i : Nat) {a : Arg} {v : Nat}
    (h : evs params tmps ss cs) (ha : argVal params tmps a = some v) : evs params tmps (ss.set i a) (cs.set i v) := by
  rw [evs_iff] at h ⊢
  rw [List.map_set, List.map_set, h, ha]

theorem evs_append {params tmps : List Nat} {s1 s2 : List Arg} {c1 c2 : List Nat} (h1 : evs params tmps s1 c1)
    (h2 : evs params tmps s2 c2) : evs params tmps (s1 ++ s2) (c1 ++ c2) := by
  rw [evs_iff] at h1 h2 ⊢
  rw [List.map_append, List.map_append, h1, h2]

theorem argVal_mono {params tmps : List Nat} (r : Nat) {a : Arg} {v : Nat} (h : argVal params tmps a = some v) :
    argVal params (tmps ++ [r]) a = some v := by
  cases a with
  | tmp i =>
    have hi : i < tmps.length := (List.getElem?_eq_some_iff.mp h).1
    exact (List.getElem?_append_left hi).trans h
  | _ => exact h

theorem evs_mono {params tmps : List Nat} (r : Nat) : ∀ {ss : List Arg} {cs : List Nat},
    evs params tmps ss cs → evs params (tmps ++ [r]) ss cs
  | [], [], _ => trivial
  | _ :: _, _ :: _, h => ⟨argVal_mono r h.1, evs_mono r h.2⟩
  | [], _ :: _, h => h.elim
  | _ :: _, [], h => h.elim

/-! ### the simulation -/

/-- the result of running three-address code and reading the returned operand -/
def execR (params tmps : List Nat) (seq : List Ins) (res : Arg) : Option Nat :=
  (execT params tmps seq).bind fun t => argVal params t res

theorem execR_cons {params tmps : List Nat} {i : Ins} {x y : Nat} (seq : List Ins) (res : Arg)
    (hx : argVal params tmps i.a = some x) (hy : argVal params tmps i.b = some y) :
    execR params tmps (i :: seq) res = (evalOp i.cls i.op x y).bind fun r => execR params (tmps ++ [r]) seq res := by
  simp only [execR, execT, hx, hy, Option.bind_eq_bind, Option.bind_some, Option.bind_assoc]

theorem toSsa_sound (params : List Nat) : ∀ (code : List WIns) (sst sls : List Arg) (n : Nat) (seq : List Ins) (res : Arg)
    (cst cls tmps : List Nat), tmps.length = n → evs params tmps sst cst → evs params tmps sls cls →
    toSsa code sst sls n = some (seq, res) → wexec code cst cls = execR params tmps seq res := by
  intro code
  induction code with
  | nil => intro sst sls n seq res cst cls tmps _ _ _ h; cases h
  | cons ins rest ih =>
    intro sst sls n seq res cst cls tmps hn hst hls h
    -- a numeric instruction: the operands `a`, `b` denote `x`, `y`; the result becomes temporary `n` on both sides
    have hop : ∀ (c : Cls) (q : String) (a b : Arg) (x y : Nat) (sst' : List Arg) (cst' : List Nat),
        argVal params tmps a = some x → argVal params tmps b = some y → evs params tmps sst' cst' →
        ((toSsa rest (.tmp n :: sst') sls (n + 1)).bind fun p => some (⟨c, q, a, b⟩ :: p.1, p.2)) = some (seq, res) →
        (do let r ← evalOp c q x y; wexec rest (r :: cst') cls) = execR params tmps seq res := by
      intro c q a b x y sst' cst' hx hy hst' h
      obtain ⟨⟨seq', r⟩, hrec, e⟩ := Option.bind_eq_some_iff.mp h
      cases e
      rw [execR_cons seq' r hx hy]
      congr 1; funext r0
      exact ih (.tmp n :: sst') sls (n + 1) seq' r (r0 :: cst') cls (tmps ++ [r0]) (by simp [hn])
        ⟨by simp [argVal, ← hn], evs_mono r0 hst'⟩ (evs_mono r0 hls) hrec
    cases ins with
    | ret =>
      match sst, cst, hst, h with
      | a :: _, v :: _, hst, h =>
        cases h
        simp [wexec, execR, execT, hst.1]
    | get i =>
      obtain ⟨a, hg, h⟩ := Option.bind_eq_some_iff.mp h
      obtain ⟨v, hv, hav⟩ := evs_get hls hg
      simp only [wexec, hv, Option.bind_eq_bind, Option.bind_some]
      exact ih (a :: sst) sls n seq res (v :: cst) cls tmps hn ⟨hav, hst⟩ hls h
    | set i =>
      match sst, cst, hst, h with
      | a :: sst', v :: cst', hst, h =>
        simp only [toSsa] at h
        split at h
        · rename_i hi
          simp only [wexec, evs_length hls ▸ hi, if_true]
          exact ih sst' (sls.set i a) n seq res cst' (cls.set i v) tmps hn hst.2 (evs_set i hls hst.1) h
        · cases h
    | const c v => exact ih (.lit (pat c v) :: sst) sls n seq res (pat c v :: cst) cls tmps hn ⟨rfl, hst⟩ hls h
    | op name =>
      simp only [toSsa] at h
      simp only [wexec]
      split at h
      · rename_i c q b a sst' hw
        match cst, hst with
        | y :: x :: cst', hst => simpa only [hw] using hop c q a b x y sst' cst' hst.2.1 hst.1 hst.2.2 h
      · rename_i c q a sst' hw
        match cst, hst with
        | x :: cst', hst => simpa only [hw] using hop c q a (.lit 0) x 0 sst' cst' hst.1 rfl hst.2 h
      · cases h

/-! ### a row: its body run on the parameters -/

theorem execT_length (params : List Nat) : ∀ (seq : List Ins) (tmps t : List Nat),
    execT params tmps seq = some t → t.length = tmps.length + seq.length
  | [], tmps, t, h => by cases h; rfl
  | i :: rest, tmps, t, h => by
    simp only [execT, Option.bind_eq_bind, Option.bind_eq_some_iff] at h
    obtain ⟨x, _, y, _, r, _, h⟩ := h
    simpa [Nat.add_assoc, Nat.add_comm 1] using execT_length params rest _ t h

theorem exec_eq_execT (params : List Nat) : ∀ (seq : List Ins) (tmps : List Nat),
    exec params tmps seq = (execT params tmps seq).bind List.getLast?
  | [], _ => rfl
  | i :: rest, tmps => by
    simp only [exec, execT, Option.bind_eq_bind, Option.bind_assoc, exec_eq_execT params rest]

theorem evs_entry (params : List Nat) (nl : Nat) :
    evs params [] (entryLocals params.length nl) (params ++ List.replicate (nl - params.length) 0) := by
  refine evs_append (evs_iff.mpr (List.ext_getElem? fun i => ?_)) (evs_iff.mpr (by simp [argVal]))
  simp only [List.map_map, List.getElem?_map]
  by_cases hi : i < params.length
  · simp [List.getElem?_range hi, argVal, List.getElem?_eq_getElem hi]
  · simp [Nat.le_of_not_lt hi]

/-- `hcanon` is needed only for a body that returns parameter 0 untouched: its three-address form is a `copy`, which
    reduces the parameter modulo the class width, and the stack code does not -/
theorem wrun_eq_exec_ssa (r : WRow) (seq : List Ins) (hssa : r.ssa = some seq) (params : List Nat)
    (hp : params.length = r.nparams) (hcanon : ∀ p, params[0]? = some p → p < 2 ^ r.src.cls.bits) :
    wrun r.code params r.nlocals = exec params [] seq := by
  have hev := evs_entry params r.nlocals
  unfold WRow.ssa at hssa
  rw [← hp] at hssa
  split at hssa
  · -- parameter returned untouched
    rename_i hts
    split at hssa <;> cases hssa
    rename_i hcls
    rw [wrun, toSsa_sound params r.code [] _ 0 [] (.param 0) [] _ [] rfl trivial hev hts]
    show params[0]? = _
    cases h0 : params[0]? with
    | none => simp only [exec, argVal, h0, Option.bind_eq_bind, Option.bind_none]
    | some p =>
      rw [exec_cons (i := ⟨r.dst.cls, "copy", .param 0, .lit 0⟩) [] (show argVal params [] (.param 0) = some p from h0) rfl rfl,
        exec, List.getLast?_concat, ← hcls, pat_natCast _ (hcanon p h0)]
  · rename_i sq k hts
    split at hssa <;> cases hssa
    rename_i hk
    rw [wrun, toSsa_sound params r.code [] _ 0 seq (.tmp k) [] _ [] rfl trivial hev hts, exec_eq_execT]
    unfold execR
    cases ht : execT params [] seq with
    | none => rfl
    | some t =>
      have hl := execT_length params seq [] t ht
      simp only [Option.bind_some, argVal, List.getLast?_eq_getElem?]
      congr 1; simp at hl; omega
  · cases hssa

/-- one or two parameters is all that `wrowOk` admits. `h12` is not used: `wrun_eq_exec_ssa`. -/
theorem wrun_eq_exec (r : WRow) (seq : List Ins) (hssa : r.ssa = some seq) (params : List Nat)
    (hp : params.length = r.nparams) (h12 : r.nparams = 1 ∨ r.nparams = 2)
    (hcanon : ∀ p, params[0]? = some p → p < 2 ^ r.src.cls.bits) :
    wrun r.code params r.nlocals = exec params [] seq :=
  wrun_eq_exec_ssa r seq hssa params hp hcanon

/-- The number of operands need not be assumed: `wrowOk` checks the row's header (`nparams` is what the kind takes, and fits in
    the locals) and the specification has a value on that many operands only (`rowSpec_length`). -/
theorem wrow_correct_spec (r : WRow) (hok : wrowOk r = true) (hs : r.src ∈ legalTys) (hd : r.dst ∈ legalTys)
    (hsame : r.kind ≠ .cast → r.dst = r.src) (args : List Int)
    (hin : ∀ a ∈ args, r.src.inRange a) (v : Nat) (hv : r.spec args = some v) :
    wrun r.code (args.map (canon r.src)) r.nlocals = some v := by
  unfold wrowOk WRow.toRow at hok
  cases hssa : r.ssa with
  | none => simp [hssa] at hok
  | some seq =>
    simp only [hssa, Option.map_some, Bool.and_eq_true, beq_iff_eq, decide_eq_true_eq] at hok
    have hlen : args.length = r.nparams := (rowSpec_length hv).trans hok.1.2.symm
    rw [wrun_eq_exec_ssa r seq hssa (args.map (canon r.src)) (by simp [hlen])]
    · exact row_correct ⟨r.kind, r.op, r.src, r.dst, seq⟩ hok.1.1 hs hd hsame args hin v hv
    · intro p hp
      cases args with
      | nil => simp at hp
      | cons a _ => simp at hp; subst hp; exact pat_lt r.src.cls a

/-- `hlen` is not used: `wrow_correct_spec`. -/
theorem wrow_correct (r : WRow) (hok : wrowOk r = true) (hs : r.src ∈ legalTys) (hd : r.dst ∈ legalTys)
    (hsame : r.kind ≠ .cast → r.dst = r.src) (args : List Int) (hlen : args.length = r.nparams)
    (hin : ∀ a ∈ args, r.src.inRange a) (v : Nat) (hv : r.spec args = some v) :
    wrun r.code (args.map (canon r.src)) r.nlocals = some v :=
  wrow_correct_spec r hok hs hd hsame args hin v hv

end FerretVerif.WasmSem
