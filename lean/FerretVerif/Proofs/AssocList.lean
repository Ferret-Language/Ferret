/-
  `find?` in association lists, mostly those whose keys are pairwise distinct: what the runtime map, the TOML data, the
  import graph and the topological sort share.
-/
namespace FerretVerif

theorem nodup_map_inj {α β : Type} {f : α → β} {l : List α} (h : (l.map f).Nodup) :
    ∀ x ∈ l, ∀ y ∈ l, f x = f y → x = y :=
  -- `f x = f y → x = y` is reflexive and symmetric in `x`, `y`, so holding pairwise it holds of all pairs
  List.Pairwise.forall_of_forall_of_flip (R := fun x y => f x = f y → x = y) (fun _ _ _ => rfl)
    ((List.pairwise_map.1 h).imp fun hne he => absurd he hne)
    ((List.pairwise_map.1 h).imp fun hne he => absurd he.symm hne)

theorem eq_of_nodup_fst {α β : Type} {l : List (α × β)} (hnd : (l.map (·.1)).Nodup)
    {a : α} {b b' : β} (h : (a, b) ∈ l) (h' : (a, b') ∈ l) : b = b' :=
  congrArg Prod.snd (nodup_map_inj hnd _ h _ h' rfl)

theorem find?_eq_some_of_unique {α : Type} {p : α → Bool} {l : List α}
    (hu : ∀ x ∈ l, ∀ y ∈ l, p x → p y → x = y) {e : α} (he : e ∈ l) (hp : p e) : l.find? p = some e := by
  cases hf : l.find? p with
  | none => exact absurd hp (List.find?_eq_none.1 hf e he)
  | some e' => rw [hu e' (List.mem_of_find?_eq_some hf) e he (List.find?_some hf) hp]

theorem find?_of_nodup {α β : Type} [BEq α] [LawfulBEq α] {l : List (α × β)} (hnd : (l.map (·.1)).Nodup)
    {x : α × β} (hx : x ∈ l) : l.find? (·.1 == x.1) = some x :=
  find?_eq_some_of_unique (fun y hy z hz py pz => nodup_map_inj hnd y hy z hz ((eq_of_beq py).trans (eq_of_beq pz).symm))
    hx (beq_self_eq_true _)

theorem find?_map_of_comp {α β : Type} (u : α → β) {p : β → Bool} {q : α → Bool} (hp : ∀ a, p (u a) = q a) (l : List α) :
    (l.map u).find? p = (l.find? q).map u := by
  rw [List.find?_map, show p ∘ u = q from funext hp]

theorem map_fst_map {α β : Type} {f : α × β → α × β} (hf : ∀ x, (f x).1 = x.1) (l : List (α × β)) :
    (l.map f).map (·.1) = l.map (·.1) := by
  rw [List.map_map]
  exact List.map_congr_left fun x _ => hf x

theorem find?_eq_none_iff_not_any {α : Type} {p : α → Bool} {l : List α} : l.find? p = none ↔ ¬ l.any p = true := by
  rw [List.find?_eq_none, List.any_eq_true]
  exact ⟨fun h ⟨x, hx, hp⟩ => h x hx hp, fun h x hx hp => h ⟨x, hx, hp⟩⟩

theorem find?_key_perm {α β : Type} [BEq α] [LawfulBEq α] {l l' : List (α × β)} (h : l.Perm l')
    (hnd : (l.map (·.1)).Nodup) (a : α) : l.find? (·.1 == a) = l'.find? (·.1 == a) := by
  cases hf : l.find? (·.1 == a) with
  | none => exact (List.find?_eq_none.2 fun x hx => List.find?_eq_none.1 hf x (h.mem_iff.2 hx)).symm
  | some x =>
    have hx : x.1 = a := eq_of_beq (List.find?_some (p := fun y : α × β => y.1 == a) hf)
    rw [← hx]
    exact (find?_of_nodup ((h.map _).nodup_iff.1 hnd) (h.mem_iff.1 (List.mem_of_find?_eq_some hf))).symm

end FerretVerif
