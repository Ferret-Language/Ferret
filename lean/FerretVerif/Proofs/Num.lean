/-
  Meaning of `losslessDec`:
    losslessDec s t = true  ↔  every value of s is a value of t,
  and what a row of the compiler's conversion table has to satisfy (`Row.sound`).
-/
import FerretVerif.Model.Num

namespace FerretVerif.Num
open NumTy

theorem E_eq : E = 262378 := rfl

theorem rep_int {t : NumTy} (h : t.isFloat = false) (v : Int) :
    Rep t v ↔ ∃ n : Int, t.lo ≤ n ∧ n ≤ t.hi ∧ v = n * (2 ^ E : Nat) := by
  unfold Rep; rw [h]

theorem rep_float {t : NumTy} (h : t.isFloat = true) (v : Int) :
    Rep t v ↔ ∃ (m : Int) (k : Nat), m.natAbs < 2 ^ t.prec ∧ t.kmin ≤ k ∧ k ≤ t.kmax ∧ v = m * (2 ^ k : Nat) := by
  unfold Rep; rw [h]

theorem rep_float_neg {t : NumTy} (ht : t.isFloat = true) {v : Int} (h : Rep t v) : Rep t (-v) := by
  obtain ⟨m, k, hm, h1, h2, rfl⟩ := (rep_float ht v).1 h
  exact (rep_float ht _).2 ⟨-m, k, by rwa [Int.natAbs_neg], h1, h2, (Int.neg_mul ..).symm⟩

theorem lo_le_zero (t : NumTy) : t.lo ≤ 0 := by
  unfold NumTy.lo
  split
  · exact Int.neg_nonpos_of_nonneg (Int.natCast_nonneg _)
  · exact Int.le_refl 0

theorem zero_le_hi (t : NumTy) : 0 ≤ t.hi := by
  unfold NumTy.hi
  split <;> exact Int.sub_nonneg_of_le (Int.ofNat_le.2 (Nat.two_pow_pos _))

theorem lo_le_hi (t : NumTy) : t.lo ≤ t.hi := Int.le_trans (lo_le_zero t) (zero_le_hi t)

theorem mul_pow_cancel {a b : Int} (k : Nat) (h : a * ((2 ^ k : Nat) : Int) = b * ((2 ^ k : Nat) : Int)) : a = b :=
  Int.eq_of_mul_eq_mul_right (Int.natCast_ne_zero.mpr (Nat.ne_of_gt (Nat.two_pow_pos k))) h

theorem natAbs_mul_pow (m : Int) (k : Nat) : (m * ((2 ^ k : Nat) : Int)).natAbs = m.natAbs * 2 ^ k := by
  rw [Int.natAbs_mul, Int.natAbs_natCast]

theorem le_of_two_pow_eq_mul {a k : Nat} {m : Int} (h : ((2 ^ a : Nat) : Int) = m * ((2 ^ k : Nat) : Int)) : k ≤ a := by
  have h' := congrArg Int.natAbs h
  rw [natAbs_mul_pow, Int.natAbs_natCast] at h'
  exact (Nat.pow_dvd_pow_iff_le_right Nat.one_lt_two).1 ⟨m.natAbs, by rw [h', Nat.mul_comm]⟩

/-- an odd `x` on the grid 2^e, written as a·2^k: `k ≤ e`, since `x` is not even, and so `a` is a multiple of `x` -/
theorem odd_le_of_mul_pow {x a k e : Nat} (hx : x % 2 = 1) (h : x * 2 ^ e = a * 2 ^ k) : x ≤ a := by
  rcases Nat.lt_or_ge e k with hk | hk
  · have h2 : 2 * 2 ^ e ∣ x * 2 ^ e := by
      rw [h, ← Nat.pow_succ']
      exact Nat.dvd_mul_left_of_dvd (Nat.pow_dvd_pow 2 hk) a
    have := Nat.mod_eq_zero_of_dvd (Nat.dvd_of_mul_dvd_mul_right (Nat.two_pow_pos e) h2)
    exact absurd (this.symm.trans hx) (by decide)
  · rw [← Nat.pow_sub_mul_pow 2 hk, ← Nat.mul_assoc] at h
    rw [← Nat.eq_of_mul_eq_mul_right (Nat.two_pow_pos k) h]
    exact Nat.le_mul_of_pos_right _ (Nat.two_pow_pos _)

theorem float_cases {t : NumTy} (h : t.isFloat = true) : t = f32 ∨ t = f64 ∨ t = f128 ∨ t = f256 := by
  cases t <;> simp [NumTy.isFloat] at h ⊢

theorem float_facts {t : NumTy} (h : t.isFloat = true) : 1 ≤ t.prec ∧ t.kmin < E ∧ E + t.prec ≤ t.kmax := by
  rcases float_cases h with rfl | rfl | rfl | rfl <;> decide

theorem float_mono {s t : NumTy} (hs : s.isFloat = true) (ht : t.isFloat = true) :
    (s.prec ≤ t.prec → t.kmin ≤ s.kmin ∧ s.kmax ≤ t.kmax) ∧ (¬ s.prec ≤ t.prec → s.kmin < t.kmin) := by
  rcases float_cases hs with rfl | rfl | rfl | rfl <;> rcases float_cases ht with rfl | rfl | rfl | rfl <;> decide

/-- the smallest positive (subnormal) value of a float type -/
theorem rep_min_subnormal {s : NumTy} (hs : s.isFloat = true) : Rep s ((2 ^ s.kmin : Nat) : Int) := by
  have hf := float_facts hs
  exact (rep_float hs _).2 ⟨1, s.kmin, Nat.one_lt_two_pow (Nat.ne_of_gt hf.1), Nat.le_refl _,
    Nat.le_of_lt (Nat.lt_of_lt_of_le hf.2.1 (Nat.le_trans (Nat.le_add_right ..) hf.2.2)), (Int.one_mul _).symm⟩

/-- below 2^prec with the grid's exponent; 2^prec itself as 1·2^(E + prec) -/
theorem nat_rep_of_le {t : NumTy} (ht : t.isFloat = true) {a : Nat} (ha : a ≤ 2 ^ t.prec) :
    Rep t ((a : Int) * ((2 ^ E : Nat) : Int)) := by
  have hf := float_facts ht
  rw [rep_float ht]
  rcases Nat.lt_or_eq_of_le ha with h | rfl
  · exact ⟨a, E, h, Nat.le_of_lt hf.2.1, Nat.le_trans (Nat.le_add_right ..) hf.2.2, rfl⟩
  · exact ⟨1, E + t.prec, Nat.one_lt_two_pow (Nat.ne_of_gt hf.1), Nat.le_trans (Nat.le_of_lt hf.2.1) (Nat.le_add_right ..),
      hf.2.2, by rw [Int.one_mul, ← Int.natCast_mul, Nat.add_comm, Nat.pow_add]⟩

theorem int_rep_of_bounds {t : NumTy} (ht : t.isFloat = true) (n : Int)
    (h1 : -((2 ^ t.prec : Nat) : Int) ≤ n) (h2 : n ≤ (2 ^ t.prec : Nat)) : Rep t (n * ((2 ^ E : Nat) : Int)) := by
  obtain ⟨a, rfl | rfl⟩ : ∃ a : Nat, n = a ∨ n = -a := ⟨n.natAbs, Int.natAbs_eq n⟩
  · exact nat_rep_of_le ht (Int.ofNat_le.1 h2)
  · rw [Int.neg_mul]
    exact rep_float_neg ht (nat_rep_of_le ht (Int.ofNat_le.1 (Int.neg_le_neg_iff.1 h1)))

/-- 2^prec + 1 needs prec + 1 significant bits -/
theorem not_rep_two_pow_succ {t : NumTy} (ht : t.isFloat = true) :
    ¬ Rep t (((2 ^ t.prec + 1 : Nat) : Int) * ((2 ^ E : Nat) : Int)) := by
  intro h
  obtain ⟨m, k, hm, _, _, e⟩ := (rep_float ht _).1 h
  have e' := congrArg Int.natAbs e
  rw [natAbs_mul_pow, natAbs_mul_pow, Int.natAbs_natCast] at e'
  have hodd : (2 ^ t.prec + 1) % 2 = 1 := by
    rw [Nat.add_mod, Nat.two_pow_mod_two_eq_zero.2 (float_facts ht).1]
  exact Nat.lt_irrefl _ (Nat.lt_of_le_of_lt (Nat.le_of_succ_le (odd_le_of_mul_pow hodd e')) hm)

theorem lossless_int_int {s t : NumTy} (hs : s.isFloat = false) (ht : t.isFloat = false) :
    (t.lo ≤ s.lo ∧ s.hi ≤ t.hi) ↔ ∀ v, Rep s v → Rep t v := by
  simp only [rep_int hs, rep_int ht]
  constructor
  · rintro ⟨h1, h2⟩ v ⟨n, a, b, e⟩
    exact ⟨n, Int.le_trans h1 a, Int.le_trans b h2, e⟩
  · intro h
    obtain ⟨n1, a1, _, e1⟩ := h _ ⟨s.lo, Int.le_refl _, lo_le_hi s, rfl⟩
    obtain ⟨n2, _, b2, e2⟩ := h _ ⟨s.hi, lo_le_hi s, Int.le_refl _, rfl⟩
    rw [mul_pow_cancel E e1, mul_pow_cancel E e2]
    exact ⟨a1, b2⟩

theorem lossless_int_float {s t : NumTy} (hs : s.isFloat = false) (ht : t.isFloat = true) :
    (s.hi ≤ (2 ^ t.prec : Nat) ∧ -((2 ^ t.prec : Nat) : Int) ≤ s.lo) ↔ ∀ v, Rep s v → Rep t v := by
  constructor
  · rintro ⟨h1, h2⟩ v hv
    obtain ⟨n, a, b, rfl⟩ := (rep_int hs v).1 hv
    exact int_rep_of_bounds ht n (Int.le_trans h2 a) (Int.le_trans b h1)
  · intro h
    refine Classical.byContradiction fun hc => ?_
    -- otherwise 2^prec + 1 or its negative is a value of `s`
    rcases (by omega : ((2 ^ t.prec + 1 : Nat) : Int) ≤ s.hi ∨ s.lo ≤ -((2 ^ t.prec + 1 : Nat) : Int)) with hh | hh
    · exact not_rep_two_pow_succ ht
        (h _ ((rep_int hs _).2 ⟨_, Int.le_trans (lo_le_zero s) (Int.natCast_nonneg _), hh, rfl⟩))
    · have := rep_float_neg ht
        (h _ ((rep_int hs _).2 ⟨_, hh, Int.le_trans (Int.neg_nonpos_of_nonneg (Int.natCast_nonneg _)) (zero_le_hi s), rfl⟩))
      rw [← Int.neg_mul, Int.neg_neg] at this
      exact not_rep_two_pow_succ ht this

/-- the smallest subnormal lies below the integer grid -/
theorem not_lossless_float_int {s t : NumTy} (hs : s.isFloat = true) (ht : t.isFloat = false) :
    ¬ ∀ v, Rep s v → Rep t v := by
  intro h
  obtain ⟨n, _, _, e⟩ := (rep_int ht _).1 (h _ (rep_min_subnormal hs))
  exact Nat.not_le_of_lt (float_facts hs).2.1 (le_of_two_pow_eq_mul e)

theorem lossless_float_float {s t : NumTy} (hs : s.isFloat = true) (ht : t.isFloat = true) :
    s.prec ≤ t.prec ↔ ∀ v, Rep s v → Rep t v := by
  have hm := float_mono hs ht
  constructor
  · intro hp v hv
    obtain ⟨h1, h2⟩ := hm.1 hp
    obtain ⟨m, k, a, b, c, e⟩ := (rep_float hs v).1 hv
    exact (rep_float ht v).2
      ⟨m, k, Nat.lt_of_lt_of_le a (Nat.pow_le_pow_right (by decide) hp), Nat.le_trans h1 b, Nat.le_trans c h2, e⟩
  · intro h
    refine Classical.byContradiction fun hc => ?_
    -- the smallest subnormal of `s` lies below the grid of `t`
    obtain ⟨m, k, _, hk, _, e⟩ := (rep_float ht _).1 (h _ (rep_min_subnormal hs))
    exact Nat.not_le_of_lt (hm.2 hc) (Nat.le_trans hk (le_of_two_pow_eq_mul e))

theorem losslessDec_iff (s t : NumTy) :
    losslessDec s t = true ↔ ∀ v, Rep s v → Rep t v := by
  unfold losslessDec
  cases hs : s.isFloat <;> cases ht : t.isFloat <;> simp only [decide_eq_true_eq]
  · exact lossless_int_int hs ht
  · exact lossless_int_float hs ht
  · exact iff_of_false Bool.false_ne_true (not_lossless_float_int hs ht)
  · exact lossless_float_float hs ht

/-- the two facts asked of every row of the regenerated table (`Row.sound_iff`) -/
def Row.sound (r : Row) : Bool :=
  (r.src == r.tgt || r.compat == if r.lossless then .implicit else .explicit) &&
    (r.compat != .implicit || losslessDec r.src r.tgt)

theorem Row.sound_iff {r : Row} : r.sound = true ↔
    (r.src ≠ r.tgt → r.compat = if r.lossless then .implicit else .explicit) ∧
      (r.compat = .implicit → losslessDec r.src r.tgt = true) := by
  simp [Row.sound, Decidable.imp_iff_not_or]

theorem Row.compat_ne_identical {r : Row} (h : r.sound = true) (hne : r.src ≠ r.tgt) : r.compat ≠ .identical := by
  rw [(Row.sound_iff.1 h).1 hne]
  split <;> nofun

end FerretVerif.Num
