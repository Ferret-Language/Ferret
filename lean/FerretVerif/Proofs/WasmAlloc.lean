/-
  The bump allocator of the wasm runtime keeps every block inside the memory and hands out pairwise disjoint blocks,
  for every sequence of sizes.
-/
import FerretVerif.Model.WasmAlloc
namespace FerretVerif.WasmAlloc

theorem le_ceil_mul (x : Nat) {p : Nat} (hp : 0 < p) : x ≤ (x + (p - 1)) / p * p := by
  have := Nat.lt_div_mul_add (a := x + (p - 1)) hp
  omega

theorem le_align8 (v : Nat) : v ≤ align8 v := le_ceil_mul v (p := 8) (by decide)
theorem align8_mod (v : Nat) : align8 v % 8 = 0 := Nat.mul_mod_left _ 8
theorem align8_lt (v : Nat) : align8 v < v + 8 := Nat.lt_succ_of_le (Nat.div_mul_le_self (v + 7) 8)

theorem ceilPages_covers (x : Nat) : x ≤ ceilPages x * page := le_ceil_mul x (by decide)

/-- growing makes room for the new bump pointer and keeps the old memory -/
theorem grown_covers (s : St) (n : Nat) : align8 (s.heap + n) ≤ (alloc s n).1.mem ∧ s.mem ≤ (alloc s n).1.mem := by
  show _ ≤ (if _ then _ else _) ∧ _ ≤ (if _ then _ else _)
  split
  · exact ⟨Nat.add_comm _ s.mem ▸ Nat.le_add_of_sub_le (ceilPages_covers _), Nat.le_add_right ..⟩
  · exact ⟨Nat.le_of_not_gt ‹_›, Nat.le_refl _⟩

/-- The block is `[s.heap, s.heap + n)`; the invariant holds afterwards whether or not it held before. -/
theorem alloc_spec (s : St) (n : Nat) :
    Inv (alloc s n).1 ∧ (alloc s n).2 + n ≤ (alloc s n).1.mem ∧ s.mem ≤ (alloc s n).1.mem ∧
      s.heap + n ≤ (alloc s n).1.heap :=
  have hc := grown_covers s n
  ⟨⟨hc.1, align8_mod _⟩, Nat.le_trans (le_align8 _) hc.1, hc.2, le_align8 _⟩

theorem run_cons (s : St) (n : Nat) (ns : List Nat) :
    run s (n :: ns) = ((run (alloc s n).1 ns).1, ((alloc s n).2, n) :: (run (alloc s n).1 ns).2) := rfl

/-- Needs no `Inv s`: the first allocation establishes it (`alloc_spec`), so a data segment that ends beyond the initial
    memory is covered too; all that is asked is an aligned start, which `bind` gives (`align8_mod`). -/
theorem run_spec (s : St) (ns : List Nat) (h8 : s.heap % 8 = 0) :
    s.heap ≤ (run s ns).1.heap ∧
      (∀ b ∈ (run s ns).2, s.heap ≤ b.1 ∧ b.1 + b.2 ≤ (run s ns).1.heap ∧ b.1 % 8 = 0) ∧
      ((run s ns).2.Pairwise fun b c => b.1 + b.2 ≤ c.1) ∧ (Inv s ∨ ns ≠ [] → Inv (run s ns).1) := by
  induction ns generalizing s with
  | nil => exact ⟨Nat.le_refl _, nofun, .nil, fun h => h.elim id fun hne => absurd rfl hne⟩
  | cons n ns ih =>
    obtain ⟨hi, _, _, hh⟩ := alloc_spec s n
    obtain ⟨i2, i3, i4, i5⟩ := ih (alloc s n).1 hi.2
    have hs : s.heap ≤ (alloc s n).1.heap := Nat.le_trans (Nat.le_add_right _ n) hh
    rw [run_cons]
    -- the new block `(s.heap, n)` ends at or before the bump pointer that every later block starts from
    exact ⟨Nat.le_trans hs i2,
      List.forall_mem_cons.mpr ⟨⟨Nat.le_refl _, Nat.le_trans hh i2, h8⟩,
        fun b hb => ⟨Nat.le_trans hs (i3 b hb).1, (i3 b hb).2⟩⟩,
      List.pairwise_cons.mpr ⟨fun c hc => Nat.le_trans hh (i3 c hc).1, i4⟩, fun _ => i5 (Or.inl hi)⟩

theorem run_length (s : St) (ns : List Nat) : (run s ns).2.length = ns.length := by
  induction ns generalizing s with
  | nil => rfl
  | cons n ns ih => rw [run_cons]; exact congrArg Nat.succ (ih _)

end FerretVerif.WasmAlloc
