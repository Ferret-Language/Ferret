/-
  Index normalisation (Model/Bounds.lean): the compile-time check `staticIndex` is the specification `normIndex` written
  with one test, and the emitted run-time sequence `checked32` is `staticIndex` as long as its 32-bit addition `len + idx`
  does not wrap.
-/
import FerretVerif.Model.Bounds
import FerretVerif.Proofs.TwoPow
namespace FerretVerif.Bounds

theorem wrapS32_id (i : Int) (h1 : -(2147483648 : Int) ≤ i) (h2 : i < 2147483648) : wrapS 32 i = i :=
  wrap_id (by decide) h1 h2

theorem staticIndex_eq_normIndex (i : Int) (n : Nat) : staticIndex i n = normIndex i n := by
  -- on either side of 0 one branch of `normIndex` is dead and the other's test is the negation of `staticIndex`'s
  by_cases hneg : i < 0
  · have h0 : ¬(0 ≤ i ∧ i < n) := fun h => Int.not_le.mpr hneg h.1
    have hc : ((n : Int) + i < 0 ∨ (n : Int) + i ≥ n) ↔ ¬(-(n : Int) ≤ i ∧ i < 0) := by omega
    simp only [staticIndex, normIndex, if_pos hneg, if_neg h0, Int.add_comm i n, hc, ite_not]
  · have h0 : ¬(-(n : Int) ≤ i ∧ i < 0) := fun h => hneg h.2
    have hc : (i < 0 ∨ i ≥ n) ↔ ¬(0 ≤ i ∧ i < n) := by omega
    simp only [staticIndex, normIndex, if_neg hneg, if_neg h0, hc, ite_not]

theorem staticIndex_eq_some (i : Int) (n j : Nat) :
    staticIndex i n = some j ↔ j < n ∧ (j : Int) = if i < 0 then (n : Int) + i else i := by
  simp only [staticIndex]
  generalize (if i < 0 then (n : Int) + i else i) = k
  split
  · simp only [reduceCtorEq, false_iff]; omega
  · obtain ⟨k, rfl⟩ := Int.eq_ofNat_of_zero_le (a := k) (by omega)
    rw [Option.some.injEq, Int.toNat_natCast]; omega

theorem normIndex_eq_some (i : Int) (len j : Nat) :
    normIndex i len = some j ↔ j < len ∧ (j : Int) = if i < 0 then (len : Int) + i else i := by
  rw [← staticIndex_eq_normIndex, staticIndex_eq_some]

theorem checked32_eq_staticIndex (idx : Int) (len : Nat) (hw : idx < 0 → wrapS 32 (len + idx) = len + idx) :
    checked32 idx len = staticIndex idx len := by
  unfold checked32 staticIndex
  split
  · rw [hw ‹_›]
  · rfl

/-- spatial safety needs no bound on the length: the range test on `adj` is the last thing before the access, so an
    accepted index is in bounds even where the 32-bit addition wrapped -/
theorem checked32_lt {idx : Int} {len j : Nat} (h : checked32 idx len = some j) : j < len := by
  simp only [checked32] at h
  generalize (if idx < 0 then wrapS 32 (len + idx) else idx) = adj at h
  split at h
  · cases h
  · rw [Option.some.injEq] at h; omega

theorem implIndex_lt {i : Int} {len j : Nat} (h : implIndex i len = some j) : j < len := by
  unfold implIndex at h
  split at h
  · cases h
  · exact checked32_lt h

end FerretVerif.Bounds
