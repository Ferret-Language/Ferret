/-
  Powers of two as integers, and two's-complement wrapping for a variable modulus: `Core.wrapInt`, `QbeSem.Ty.wrap` and
  `Bounds.wrapS` all reduce modulo `m = 2^bits` and move the upper half `[h, m)`, `h = 2^(bits-1)`, down by `m`, so the
  facts are stated for any `m = 2 * h`. `tmod_nonpos` and `natAbs_tmod_le` are what core does not state of the sign and
  size of `Int.tmod`.
-/
namespace FerretVerif

theorem pow2_pos (n : Nat) : (0 : Int) < ((2 ^ n : Nat) : Int) := Int.natCast_pos.mpr (Nat.two_pow_pos n)

theorem two_pow_even (w : Nat) (hw : 0 < w) : 2 ^ w = 2 * 2 ^ (w - 1) := by
  rw [Nat.mul_comm, Nat.two_pow_pred_mul_two hw]

theorem pow2_half {n : Nat} (h : 1 ≤ n) : ((2 ^ n : Nat) : Int) = 2 * ((2 ^ (n - 1) : Nat) : Int) := by
  rw [two_pow_even n h, Int.natCast_mul]
  rfl

theorem pow2_dvd {a b : Nat} (h : a ≤ b) : ((2 ^ a : Nat) : Int) ∣ ((2 ^ b : Nat) : Int) :=
  Int.natCast_dvd_natCast.mpr (Nat.pow_dvd_pow 2 h)

theorem pow2_le {a b : Nat} (h : a ≤ b) : ((2 ^ a : Nat) : Int) ≤ ((2 ^ b : Nat) : Int) :=
  Int.ofNat_le.mpr (Nat.pow_le_pow_right (by decide) h)

theorem wrap_id {m h v : Int} (hm : m = 2 * h) (h1 : -h ≤ v) (h2 : v < h) :
    (if v % m ≥ h then v % m - m else v % m) = v := by
  by_cases hv : 0 ≤ v
  · rw [Int.emod_eq_of_lt hv (by omega), if_neg (Int.not_le.mpr h2)]
  · have ⟨a1, a2, a3⟩ : 0 ≤ v + m ∧ v + m < m ∧ v + m ≥ h := by omega
    rw [← Int.add_emod_right, Int.emod_eq_of_lt a1 a2, if_pos a3, Int.add_sub_cancel]

theorem wrap_range {m h : Int} (hm : m = 2 * h) (hh : 0 < h) (v : Int) :
    -h ≤ (if v % m ≥ h then v % m - m else v % m) ∧ (if v % m ≥ h then v % m - m else v % m) < h := by
  rw [Int.two_mul] at hm
  subst hm
  have hpos := Int.add_pos hh hh
  have h0 := Int.emod_nonneg v (Int.ne_of_gt hpos)
  have h1 := Int.emod_lt_of_pos v hpos
  split
  next c =>
    refine ⟨?_, Int.lt_trans (Int.sub_neg_of_lt h1) hh⟩
    rw [← Int.sub_sub, ← Int.zero_sub h]
    exact Int.sub_le_sub_right (Int.sub_nonneg_of_le c) h
  next c => exact ⟨Int.le_trans (Int.neg_nonpos_of_nonneg (Int.le_of_lt hh)) h0, Int.not_le.mp c⟩

theorem wrap_emod {c : Prop} [Decidable c] {m v : Int} : (if c then v % m - m else v % m) % m = v % m := by
  split
  · rw [Int.sub_emod_right, Int.emod_emod]
  · rw [Int.emod_emod]

theorem tmod_nonpos {a : Int} (b : Int) (ha : a ≤ 0) : Int.tmod a b ≤ 0 := by
  have := Int.tmod_nonneg (a := -a) b (Int.neg_nonneg_of_nonpos ha)
  rw [Int.neg_tmod] at this
  exact Int.nonpos_of_neg_nonneg this

theorem natAbs_tmod_le (a b : Int) : (Int.tmod a b).natAbs ≤ a.natAbs := Int.natAbs_tmod a b ▸ Nat.mod_le _ _

end FerretVerif
