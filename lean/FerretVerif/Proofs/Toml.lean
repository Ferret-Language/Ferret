/-
  C20, file side of the TOML writer/parser round trip.  A written file is a list of sections (`secsOf`); the
  parser's loop turns each into `applySec` on its data, so it ends with `finalData data`; what `lookup` finds
  in that is `Proofs/TomlData`.
-/
import FerretVerif.Proofs.TomlLine
import FerretVerif.Proofs.TomlData

namespace FerretVerif.Toml

/-! ## Lines of a text -/

theorem splitLines_go_run {l : List Char} (h : '\n' ∉ l) (rest cur : List Char) :
    splitLines.go (l ++ rest) cur = splitLines.go rest (l.reverse ++ cur) := by
  induction l generalizing cur with
  | nil => rfl
  | cons a l ih =>
    show (if a == '\n' then _ else splitLines.go (l ++ rest) (a :: cur)) = _
    rw [if_neg (by simpa using List.ne_of_not_mem_cons h |>.symm), ih (List.not_mem_of_not_mem_cons h)]
    simp

theorem splitLines_line {l : List Char} (rest : List Char) (h : '\n' ∉ l)
    (hr : l.getLast? ≠ some '\r') : splitLines (l ++ '\n' :: rest) = l :: splitLines rest := by
  unfold splitLines
  rw [splitLines_go_run h]
  show List.map _ ((l.reverse ++ []).reverse :: splitLines.go rest []) = _
  simp [hr]

def parseText (pf : List Char → Bool) (text : List Char) (d : Data) (cur : List Char) : Option Data :=
  parseLines pf (splitLines text) d cur

/-- section a key/value line lands in -/
def secName (cur : List Char) : List Char := if cur.isEmpty then "default".toList else cur

theorem parseText_nil (pf : List Char → Bool) (d : Data) (cur : List Char) :
    parseText pf [] d cur = some d := rfl

theorem parseText_line (pf : List Char → Bool) {l : List Char} (rest : List Char) (h : '\n' ∉ l)
    (hr : l.getLast? ≠ some '\r') (d : Data) (cur : List Char) :
    parseText pf (l ++ '\n' :: rest) d cur =
      match parseLine pf (trimSpace l) with
      | .skip => parseText pf rest d cur
      | .section n => parseText pf rest (ensureSection d n) n
      | .kv k v => parseText pf rest (setIn d (secName cur) k v) cur
      | .bad => none := by
  rw [parseText, splitLines_line rest h hr]
  rfl

theorem parseText_formatLine (pf : List Char → Bool) (hpf : ∀ t, floatRaw t = true → pf t = true)
    {k : List Char} {v : WVal} (hk : bareKey k = true) (hv : writable v = true)
    (rest : List Char) (d : Data) (cur : List Char) :
    parseText pf (formatLine k v ++ rest) d cur
      = parseText pf rest (setIn d (secName cur) k (expectRead v)) cur := by
  have ht := formatValue_token hv
  have hkt := bareKey_token hk
  have hnl : '\n' ∉ k ++ " = ".toList ++ formatValue v := by
    simp only [List.mem_append, not_or]
    exact ⟨⟨hkt.noLF, by decide⟩, ht.noLF⟩
  have e : formatLine k v ++ rest = (k ++ " = ".toList ++ formatValue v) ++ '\n' :: rest := by
    simp [formatLine]
  rw [e, parseText_line pf rest hnl (tight_wrap hkt.tight _ ht.tight).last_ne_CR,
    parseLine_formatLine pf hpf hk hv]

/-- what the text side needs of the entries of a section -/
def okEntries (es : List (List Char × WVal)) : Prop :=
  ∀ e ∈ es, bareKey e.1 = true ∧ writable e.2 = true

theorem parseText_entries (pf : List Char → Bool) (hpf : ∀ t, floatRaw t = true → pf t = true)
    (rest : List Char) (cur : List Char) {es : List (List Char × WVal)} {d : Data} (h : okEntries es) :
    parseText pf ((es.map fun (k, v) => formatLine k v).flatten ++ rest) d cur
      = parseText pf rest (applyEntries (secName cur) d es) cur := by
  induction es generalizing d with
  | nil => rfl
  | cons e es ih =>
    obtain ⟨hk, hv⟩ := h e List.mem_cons_self
    rw [List.map_cons, List.flatten_cons, List.append_assoc]
    show parseText pf (formatLine e.1 e.2 ++ _) d cur = _
    rw [parseText_formatLine pf hpf hk hv, ih fun e' he' => h e' (List.mem_cons_of_mem _ he')]
    rfl

theorem parseText_header (pf : List Char → Bool) {n : List Char} (hn : bareKey n = true)
    (rest : List Char) (d : Data) (cur : List Char) :
    parseText pf ("\n[".toList ++ n ++ "]\n".toList ++ rest) d cur
      = parseText pf rest (ensureSection d n) n := by
  have e : "\n[".toList ++ n ++ "]\n".toList ++ rest
      = [] ++ '\n' :: (('[' :: n ++ [']']) ++ '\n' :: rest) := by simp
  have ht : tight ('[' :: n ++ [']']) := tight_ends (by decide) (by decide) n
  have hnl : '\n' ∉ '[' :: n ++ [']'] := by simpa using (bareKey_token hn).noLF
  -- an empty first line, skipped, then the header line
  rw [e, parseText_line pf _ (by simp) (by simp), trimSpace_allSp allSp_nil, parseLine_nil]
  show parseText pf (('[' :: n ++ [']']) ++ '\n' :: rest) d cur = _
  rw [parseText_line pf _ hnl ht.last_ne_CR, trimSpace_eq_self ht, parseLine_section,
    trimSpace_eq_self (bareKey_token hn).tight]

theorem secName_of_bareKey {n : List Char} (hn : bareKey n = true) : secName n = n := by
  cases n with
  | nil => exact absurd rfl (bareKey_iff.mp hn).1
  | cons a r => rfl

theorem parseText_section (pf : List Char → Bool) (hpf : ∀ t, floatRaw t = true → pf t = true)
    {n : List Char} {es : List (List Char × WVal)} (hn : bareKey n = true)
    (hnd : n ≠ "default".toList) (hes : okEntries es) (rest : List Char) (d : Data) (cur : List Char) :
    parseText pf (writeSection n es ++ rest) d cur = parseText pf rest (applySec d (n, es)) n := by
  have hb : (n == "default".toList) = false := beq_eq_false_iff_ne.mpr hnd
  unfold writeSection applySec
  simp only [hb, Bool.false_eq_true, if_false]
  rw [List.append_assoc, parseText_header pf hn, parseText_entries pf hpf rest n hes,
    secName_of_bareKey hn]

/-- the `default` section has no header: its lines come first, while the parser has seen no header -/
theorem parseText_section_default (pf : List Char → Bool)
    (hpf : ∀ t, floatRaw t = true → pf t = true)
    {es : List (List Char × WVal)} (hes : okEntries es) (rest : List Char) (d : Data) :
    parseText pf (writeSection "default".toList es ++ rest) d [] =
      parseText pf rest (applySec d ("default".toList, es)) [] := by
  -- a variable for the name: unifying against the literal itself decodes the string, which takes seconds
  generalize hn : "default".toList = n
  have hb : (n == "default".toList) = true := beq_iff_eq.mpr hn.symm
  unfold writeSection applySec
  simp only [hb, if_true]
  rw [List.nil_append, parseText_entries pf hpf rest [] hes, ← hn]
  rfl

theorem parseText_sections (pf : List Char → Bool) (hpf : ∀ t, floatRaw t = true → pf t = true)
    {secs : List WSection} {d : Data} {cur : List Char}
    (h : ∀ s ∈ secs, bareKey s.1 = true ∧ s.1 ≠ "default".toList ∧ okEntries s.2) :
    parseText pf ((secs.map fun s => writeSection s.1 s.2).flatten) d cur = some (secs.foldl applySec d) := by
  induction secs generalizing d cur with
  | nil => rfl
  | cons s secs ih =>
    obtain ⟨h1, h2, h3⟩ := h s List.mem_cons_self
    rw [List.map_cons, List.flatten_cons, parseText_section pf hpf h1 h2 h3,
      ih fun s' hs' => h s' (List.mem_cons_of_mem _ hs')]
    rfl

/-! ## The written file as a list of sections -/

/-- the sections the writer emits, in its fixed order -/
def secsOf (data : List WSection) (order : List (List Char)) : List WSection :=
  order.filterMap fun n => (data.find? (·.1 == n)).map fun p => (n, p.2)

theorem writeFile_eq_secs (data : List WSection) :
    writeFile data = ((secsOf data sectionOrder).map fun s => writeSection s.1 s.2).flatten := by
  rw [writeFile, secsOf, List.map_filterMap]
  congr 2
  funext n
  cases data.find? (·.1 == n) <;> rfl

theorem mem_of_mem_secsOf {data : List WSection} {order : List (List Char)} {s : WSection}
    (h : s ∈ secsOf data order) : s.1 ∈ order ∧ s ∈ data := by
  obtain ⟨n, hn, hf⟩ := List.mem_filterMap.mp h
  obtain ⟨p, hp, rfl⟩ := Option.map_eq_some_iff.mp hf
  have hp1 : p.1 = n := by simpa using List.find?_some hp
  exact ⟨hn, hp1 ▸ List.mem_of_find?_eq_some hp⟩

theorem mem_secsOf_of_nodup {data : List WSection} (hnd : (data.map (·.1)).Nodup) {order : List (List Char)}
    {s : WSection} (hs : s ∈ data) (ho : s.1 ∈ order) : s ∈ secsOf data order :=
  List.mem_filterMap.mpr ⟨s.1, ho, by rw [find?_of_nodup hnd hs]; rfl⟩

theorem secsOf_cons_none {data : List WSection} {a : List Char} (order : List (List Char))
    (h : data.find? (·.1 == a) = none) : secsOf data (a :: order) = secsOf data order := by
  rw [secsOf, List.filterMap_cons, h]; rfl

theorem secsOf_cons_some {data : List WSection} {a : List Char} (order : List (List Char))
    {p : WSection} (h : data.find? (·.1 == a) = some p) :
    secsOf data (a :: order) = (a, p.2) :: secsOf data order := by
  rw [secsOf, List.filterMap_cons, h]; rfl

/-- the names of the emitted sections are a sublist of the order -/
theorem secsOf_nodup (data : List WSection) (order : List (List Char)) (ho : order.Nodup) :
    ((secsOf data order).map (·.1)).Nodup := by
  have : (secsOf data order).map (·.1) = order.filter fun n => (data.find? (·.1 == n)).isSome := by
    rw [secsOf, List.map_filterMap, ← List.filterMap_eq_filter]
    congr
    funext n
    cases h : data.find? (·.1 == n) <;> simp [Option.guard, h]
  rw [this]
  exact ho.sublist List.filter_sublist

/-! ## File level -/

/-- well-formed writer input: known, pairwise distinct section names; in each section pairwise
    distinct bare keys and writable values -/
def wfData (data : List WSection) : Bool :=
  decide (data.map (·.1)).Nodup &&
  data.all fun s =>
    decide (s.1 ∈ sectionOrder) && decide (s.2.map (·.1)).Nodup &&
      s.2.all fun e => bareKey e.1 && writable e.2

structure WfData (data : List WSection) : Prop where
  names_nodup : (data.map (·.1)).Nodup
  names_known : ∀ s ∈ data, s.1 ∈ sectionOrder
  keys_nodup : ∀ s ∈ data, (s.2.map (·.1)).Nodup
  entries_ok : ∀ s ∈ data, okEntries s.2

theorem wfData_unpack {data : List WSection} (h : wfData data = true) : WfData data := by
  simp only [wfData, Bool.and_eq_true, decide_eq_true_eq, List.all_eq_true] at h
  exact ⟨h.1, fun s hs => (h.2 s hs).1.1, fun s hs => (h.2 s hs).1.2, fun s hs => (h.2 s hs).2⟩

/-- the data the parser ends with -/
def finalData (data : List WSection) : Data := (secsOf data sectionOrder).foldl applySec []

def otherSections : List (List Char) :=
  ["compiler", "build", "cache", "external", "neighbors", "dependencies"].map String.toList

/-- what the proofs need of the table of section names (one evaluation of the seven literals) -/
theorem sectionOrder_facts :
    sectionOrder.Nodup ∧ (∀ n ∈ sectionOrder, bareKey n = true) ∧ "default".toList ∉ otherSections := by
  decide +kernel

theorem parseFile_writeFile_eq (pf : List Char → Bool) (hpf : ∀ t, floatRaw t = true → pf t = true)
    (data : List WSection) (hok : ∀ s ∈ data, okEntries s.2) :
    parseFile pf (writeFile data) = some (finalData data) := by
  have hsecs : ∀ s ∈ secsOf data otherSections,
      bareKey s.1 = true ∧ s.1 ≠ "default".toList ∧ okEntries s.2 := by
    intro s hs
    obtain ⟨h1, h2⟩ := mem_of_mem_secsOf hs
    exact ⟨sectionOrder_facts.2.1 _ (List.mem_cons_of_mem _ h1),
      fun e => sectionOrder_facts.2.2 (e ▸ h1), hok s h2⟩
  show parseText pf (writeFile data) [] [] = _
  rw [writeFile_eq_secs, finalData, show sectionOrder = "default".toList :: otherSections from rfl]
  cases h : data.find? (·.1 == "default".toList) with
  | none => rw [secsOf_cons_none _ h]; exact parseText_sections pf hpf hsecs
  | some p =>
    have hp : okEntries p.2 := hok p (List.mem_of_find?_eq_some h)
    rw [secsOf_cons_some _ h]
    simp only [List.map_cons, List.flatten_cons, List.foldl_cons]
    rw [parseText_section_default pf hpf hp, parseText_sections pf hpf hsecs]

/-- round trip: every written key is read back, in its section, with the expected value, and nothing else is -/
theorem parseFile_writeFile_lookup (pf : List Char → Bool)
    (hpf : ∀ t, floatRaw t = true → pf t = true) (data : List WSection)
    (hwf : wfData data = true) {n k : List Char} {pv : PVal} :
    (parseFile pf (writeFile data)).bind (fun d => lookup d n k) = some pv ↔
      ∃ es v, (n, es) ∈ data ∧ (k, v) ∈ es ∧ pv = expectRead v := by
  replace hwf := wfData_unpack hwf
  have hsec {es} (hn : (n, es) ∈ data) : (n, es) ∈ secsOf data sectionOrder :=
    mem_secsOf_of_nodup hwf.names_nodup hn (hwf.names_known _ hn)
  rw [parseFile_writeFile_eq pf hpf data hwf.entries_ok]
  show lookup (finalData data) n k = some pv ↔ _
  rcases lookup_foldl_applySec (secsOf data sectionOrder) n k [] with ⟨es', v', hn', hk', h⟩ | ⟨hno, h⟩
  · rw [finalData, h]
    constructor
    · intro e
      exact ⟨es', v', (mem_of_mem_secsOf hn').2, hk', (Option.some.inj e).symm⟩
    · -- section names and keys are distinct, so the value found for `(n, k)` is the one given
      rintro ⟨es, v, hn, hk, rfl⟩
      cases eq_of_nodup_fst (secsOf_nodup data _ sectionOrder_facts.1) hn' (hsec hn)
      cases eq_of_nodup_fst (hwf.keys_nodup _ hn) hk' hk
      rfl
  · rw [finalData, h]
    constructor
    · intro e; cases e
    · rintro ⟨es, v, hn, hk, rfl⟩
      exact absurd (List.mem_map.mpr ⟨(k, v), hk, rfl⟩) (hno es (hsec hn))

/-- no other sections: every section of the parser's data was written -/
theorem parseFile_writeFile_sections (pf : List Char → Bool)
    (hpf : ∀ t, floatRaw t = true → pf t = true) (data : List WSection)
    (hwf : wfData data = true) {d : Data} (h : parseFile pf (writeFile data) = some d) :
    ∀ x ∈ d, ∃ es, (x.1, es) ∈ data := by
  rw [parseFile_writeFile_eq pf hpf data (wfData_unpack hwf).entries_ok] at h
  cases h
  intro x hx
  rcases names_foldl_applySec (d := []) (List.mem_map.mpr ⟨x, hx, rfl⟩) with h | h
  · obtain ⟨s, hs, hsx⟩ := List.mem_map.mp h
    exact ⟨s.2, hsx ▸ (mem_of_mem_secsOf hs).2⟩
  · cases h

/-- `parseFile` is a total function, as every Lean definition is: on every text it returns `some` data or `none` -/
theorem parse_total (pf : List Char → Bool) (s : List Char) : ∃ r, parseFile pf s = r := ⟨_, rfl⟩

/-! ## Concrete instances -/

def demo : List WSection :=
  [ ("build".toList,
      [ ("opt-level".toList, .int 3), ("ratio".toList, .float "2".toList),
        ("name".toList, .str " a # b = [c] ".toList) ]),
    ("default".toList,
      [ ("debug".toList, .bool true), ("max-depth_2".toList, .int (-9223372036854775808)),
        ("eps".toList, .float "-0.000001".toList) ]) ]

theorem wfData_demo : wfData demo = true := by decide +kernel

example : wfData demo = true := wfData_demo

/-- `floatRaw` itself is an admissible `pf` -/
example : (parseFile floatRaw (writeFile demo)).bind
      (fun d => lookup d "default".toList "max-depth_2".toList)
    = some (.int (-9223372036854775808)) :=
  (parseFile_writeFile_lookup floatRaw (fun _ h => h) demo wfData_demo).mpr
    ⟨_, .int (-9223372036854775808), List.mem_cons_of_mem _ List.mem_cons_self,
      List.mem_cons_of_mem _ List.mem_cons_self, rfl⟩

example : (parseFile floatRaw (writeFile demo)).bind
      (fun d => lookup d "build".toList "ratio".toList) = some (.float "2.0".toList) :=
  (parseFile_writeFile_lookup floatRaw (fun _ h => h) demo wfData_demo).mpr
    ⟨_, .float "2".toList, List.mem_cons_self, List.mem_cons_of_mem _ List.mem_cons_self, rfl⟩

/-- an end-to-end instance evaluated outright (no integers: `natDigits` is a well-founded recursion) -/
example :
    parseFile floatRaw (writeFile
      [ ("cache".toList, [("dir".toList, .str "x # y".toList), ("r".toList, .float "2".toList)]),
        ("default".toList, [("a".toList, .bool true)]) ])
    = some [ ("default".toList, [("a".toList, .bool true)]),
             ("cache".toList, [("dir".toList, .str "x # y".toList), ("r".toList, .float "2.0".toList)]) ] := by
  decide +kernel

example :
    parseLine floatRaw (trimSpace "\t max-depth_2\t=  \"a # b\" \t # note = \"x\" ".toList)
      = .kv "max-depth_2".toList (.str "a # b".toList) := by decide +kernel

/-! ### The conjuncts of `okStr` are needed (witnesses, `pf` rejecting everything) -/

example : parseValue (fun _ => false) (formatValue (.str "true".toList)) = .bool true := by decide

example : parseLine (fun _ => false)
      (trimSpace ("k = ".toList ++ formatValue (.str "a\\".toList) ++ " # c".toList))
    = .kv "k".toList (.str "\"a\\\" # c".toList) := by decide

example : parseLine (fun _ => false) (trimSpace ("k = ".toList ++ formatValue (.str "a\"b # c".toList)))
    = .kv "k".toList (.str "\"a\"b".toList) := by decide

end FerretVerif.Toml
