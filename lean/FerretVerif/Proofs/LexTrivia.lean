/-
  Whitespace and comments in front of a text do not change its significant tokens (C19).  `sigs` is what the parser sees
  of a text; `sigs_unfold` is its one-step equation, free of fuel and positions, from which every later statement about
  `sigs` starts (here and `sigs_chunk` in Proofs/LexStable.lean).  `Trivia` is white space and comments as the lexer
  sees them; `leading_trivia_skipped` is an induction on it.
-/
import FerretVerif.Proofs.Lexer

namespace FerretVerif.Lexer

/-- what the parser sees of a token list: kinds and values of the non-comment, non-EOF tokens -/
def sigOf (toks : List Tok) : List (Kind × List Byte) :=
  (toks.filter fun t => t.kind != .comment && t.kind != .eof).map fun t => (t.kind, t.text)

def sigs (T : Tables) (s : List Byte) : List (Kind × List Byte) := sigOf (lex T s).toks

theorem sigOf_append (a b : List Tok) : sigOf (a ++ b) = sigOf a ++ sigOf b := by
  simp [sigOf, List.filter_append]

def sigStep (T : Tables) (s : List Byte) : List (Kind × List Byte) :=
  match (step T s).tok with
  | some (k, v) => if k != .comment && k != .eof then [(k, v)] else []
  | none => []

theorem sigOf_stepToks (T : Tables) (p : Pos) (s : List Byte) : sigOf (stepToks T p s) = sigStep T s := by
  unfold stepToks sigStep
  cases (step T s).tok with
  | none => rfl
  | some kv =>
    obtain ⟨k, v⟩ := kv
    simp only [sigOf, List.filter]
    split <;> simp [*]

theorem sigOf_lexLoop_succ_cons (T : Tables) (f : Nat) (p : Pos) (c : Byte) (cs : List Byte) :
    sigOf (lexLoop T (f + 1) p (c :: cs)).toks = sigStep T (c :: cs) ++
      sigOf (lexLoop T f (advance p ((c :: cs).take (step T (c :: cs)).n)) ((c :: cs).drop (step T (c :: cs)).n)).toks := by
  rw [lexLoop_succ_cons, sigOf_append, sigOf_stepToks]

theorem sigOf_lexLoop_pos (T : Tables) (f : Nat) (p q : Pos) (s : List Byte) :
    sigOf (lexLoop T f p s).toks = sigOf (lexLoop T f q s).toks := by
  induction f generalizing p q s with
  | zero => cases s <;> rfl
  | succ f ih =>
    cases s with
    | nil => rfl
    | cons c cs => rw [sigOf_lexLoop_succ_cons, sigOf_lexLoop_succ_cons, ih _ (advance q _)]

/-- **One-step unfolding**, free of fuel (`lexLoop_fuel`) and positions. -/
theorem sigs_unfold {T : Tables} (hT : TablesOk T) (c : Byte) (cs : List Byte) :
    sigs T (c :: cs) = sigStep T (c :: cs) ++ sigs T ((c :: cs).drop (step T (c :: cs)).n) := by
  unfold sigs lex
  rw [List.length_cons, sigOf_lexLoop_succ_cons, lexLoop_fuel hT _ (drop_step_length hT c cs) (Nat.le_refl _),
    sigOf_lexLoop_pos T _ _ Pos.start]

theorem sigs_nil (T : Tables) : sigs T [] = [] := rfl

/-- `hn` takes the length in the form the caller's scanner computes it -/
theorem sigs_skip_comment {T : Tables} (hT : TablesOk T) {c : Byte} {a x : List Byte} {n : Nat} {v : List Byte}
    (h : step T (c :: a ++ x) = ⟨n, some (.comment, v), false⟩) (hn : n = (c :: a).length) : sigs T (c :: a ++ x) = sigs T x := by
  subst hn
  rw [List.cons_append, sigs_unfold hT, ← List.cons_append, sigStep, h, List.drop_left]
  rfl

/-! ### white space -/

theorem sigs_ws {T : Tables} (hT : TablesOk T) {s : List Byte} {n : Nat} (h : scanWs s = some n) : sigs T s = sigs T (s.drop n) := by
  cases s with
  | nil => cases h
  | cons c cs => rw [sigs_unfold hT, sigStep, step_of_ws T h]; rfl

theorem sigs_ws_cons {T : Tables} (hT : TablesOk T) (w : Byte) (x : List Byte) (hw : isSpace w = true) :
    sigs T (w :: x) = sigs T x := by
  rw [sigs_ws hT (scanWs_cons w x ▸ if_pos hw), List.drop_succ_cons]
  -- what is left is `x` without ITS leading white space, if it has any
  by_cases h : spanLen isSpace x = 0
  · rw [h]; rfl
  · exact (sigs_ws hT ((scanWs_eq x).trans (nz_eq_some.mpr ⟨rfl, h⟩))).symm

/-! ### trivia -/

/-- White space and comments as the lexer sees them: white-space bytes, block comments `/* body */` whose first
    `*/` is the closing one, line comments `// body` terminated by a line feed. -/
inductive Trivia : List Byte → Prop
  | nil : Trivia []
  | ws (w : Byte) (t : List Byte) : isSpace w = true → Trivia t → Trivia (w :: t)
  | block (body t : List Byte) : findPair 42 47 (body ++ [42, 47]) = some body.length → Trivia t →
      Trivia (47 :: 42 :: (body ++ [42, 47]) ++ t)
  | line (body t : List Byte) : (∀ b ∈ body, b ≠ 10 ∧ b ≠ 13) → Trivia t → Trivia (47 :: 47 :: body ++ 10 :: t)

/-- **Leading trivia is inert**: any amount of white space and comments in front of ANY text leaves the
    significant tokens (kinds and values) of that text unchanged. -/
theorem leading_trivia_skipped {T : Tables} (hT : TablesOk T) {t : List Byte} (ht : Trivia t) :
    ∀ s : List Byte, sigs T (t ++ s) = sigs T s := by
  induction ht with
  | nil => intro s; rfl
  | ws w t hw _ ih =>
    intro s
    rw [List.cons_append, sigs_ws_cons hT w _ hw]
    exact ih s
  | block body t hb _ ih =>
    intro s
    rw [List.append_assoc, ← ih s]
    have hfp := (findPair_spec hb).2 (t ++ s)
    rw [List.take_of_length_le (by simp)] at hfp
    have h3 : scanBlockComment (47 :: 42 :: (body ++ [42, 47]) ++ (t ++ s)) = some (body.length + 4) := by
      simp only [List.cons_append, scanBlockComment, hfp, Option.map_some]
    exact sigs_skip_comment hT (step_of_block T ((scanWs_eq_none_iff _ _).mpr (by decide)) rfl h3) (by simp)
  | line body t hb _ ih =>
    intro s
    -- the line feed is not part of the comment: it stays in front of `t ++ s` and is then skipped as white space
    rw [List.append_assoc, List.cons_append, ← ih s, ← sigs_ws_cons hT 10 (t ++ s) (by decide)]
    have hs : spanLen (fun c => !(c = 10 || c = 13)) (body ++ 10 :: (t ++ s)) = body.length :=
      spanLen_append_stop (fun b hbm => by simp [(hb b hbm).1, (hb b hbm).2]) (by simp)
    have h2 : scanLineComment (47 :: 47 :: body ++ 10 :: (t ++ s)) = some (2 + body.length) := by
      simp only [List.cons_append, scanLineComment, hs]
    exact sigs_skip_comment hT (step_of_line T ((scanWs_eq_none_iff _ _).mpr (by decide)) h2)
      (by simp only [List.length_cons]; omega)

end FerretVerif.Lexer
