/-
  ComputeTopologicalOrder (Kahn with sorted ready sets). The in-degree table the loop carries is a function of the
  emitted list: `degOf g all sorted` gives each module `unem g sorted m`, the number of its dependencies not yet
  emitted. So the loop invariant `KInv` speaks of the emitted list and the queue only. Completeness on an acyclic
  graph is an induction along the edges (`acyclic_induction`, by the measure `rank`). The Go maps' iteration order
  does not matter: the loop reads the graph through `succs`, the table as a map, and sorts each ready set.
-/
import FerretVerif.Proofs.DepGraph

namespace FerretVerif.DepGraph

/-! ### insertion sort -/

theorem insertSorted_perm (x : Nat) (l : List Nat) : (insertSorted x l).Perm (x :: l) := by
  fun_induction insertSorted x l with
  | case1 => exact List.Perm.refl _
  | case2 y ys h => exact List.Perm.refl _
  | case3 y ys h ih => exact (List.Perm.cons y ih).trans (List.Perm.swap x y ys)

theorem sortNat_cons (x : Nat) (l : List Nat) : sortNat (x :: l) = insertSorted x (sortNat l) := rfl

theorem sortNat_perm (l : List Nat) : (sortNat l).Perm l := by
  induction l with
  | nil => exact List.Perm.refl _
  | cons x l ih =>
    rw [sortNat_cons]
    exact (insertSorted_perm x _).trans (List.Perm.cons x ih)

theorem mem_sortNat {x : Nat} {l : List Nat} : x ∈ sortNat l ↔ x ∈ l :=
  (sortNat_perm l).mem_iff

theorem nodup_sortNat {l : List Nat} (h : l.Nodup) : (sortNat l).Nodup :=
  (sortNat_perm l).nodup_iff.2 h

theorem insertSorted_sorted (x : Nat) (l : List Nat) (h : l.Pairwise (· ≤ ·)) :
    (insertSorted x l).Pairwise (· ≤ ·) := by
  fun_induction insertSorted x l with
  | case1 => simp
  | case2 y ys hxy =>
    refine List.pairwise_cons.2 ⟨fun z hz => ?_, h⟩
    rcases List.mem_cons.1 hz with rfl | hz
    · exact hxy
    · exact Nat.le_trans hxy ((List.pairwise_cons.1 h).1 z hz)
  | case3 y ys hxy ih =>
    rw [List.pairwise_cons] at h
    refine List.pairwise_cons.2 ⟨fun z hz => ?_, ih h.2⟩
    rcases List.mem_cons.1 ((insertSorted_perm x ys).mem_iff.1 hz) with rfl | hz
    · omega
    · exact h.1 z hz

theorem sortNat_sorted (l : List Nat) : (sortNat l).Pairwise (· ≤ ·) := by
  induction l with
  | nil => simp [sortNat]
  | cons x l ih => rw [sortNat_cons]; exact insertSorted_sorted x _ ih

/-- the sorted ready set does not depend on the (map) iteration order -/
theorem sortNat_eq_of_perm {l1 l2 : List Nat} (h : l1.Perm l2) : sortNat l1 = sortNat l2 :=
  List.Perm.eq_of_pairwise (fun _ _ _ _ => Nat.le_antisymm) (sortNat_sorted l1) (sortNat_sorted l2)
    (((sortNat_perm l1).trans h).trans (sortNat_perm l2).symm)

/-! ### list facts missing from core -/

theorem nodup_eraseDups (l : List Nat) : l.eraseDups.Nodup := by
  generalize hn : l.length = n
  induction n using Nat.strongRecOn generalizing l with
  | _ n ih =>
    cases l with
    | nil => simp
    | cons a as =>
      rw [List.eraseDups_cons, List.nodup_cons]
      constructor
      · rw [List.mem_eraseDups]; simp
      · subst hn
        exact ih _ (Nat.lt_succ_of_le (List.length_filter_le _ _)) _ rfl

theorem eraseDups_perm {l l' : List Nat} (h : l.Perm l') : l.eraseDups.Perm l'.eraseDups :=
  (List.perm_ext_iff_of_nodup (nodup_eraseDups _) (nodup_eraseDups _)).2 fun x => by
    rw [List.mem_eraseDups, List.mem_eraseDups, h.mem_iff]

/-! ### acyclic graphs are well-founded: induction along edges -/

def rank (g : Graph) (x : Nat) : Nat := (nodes g).countP fun z => hasPath g x z

theorem rank_lt {g : Graph} (hac : Acyclic g) {x y : Nat} (e : Edge g x y) : rank g y < rank g x := by
  refine countP_lt_countP (fun z hz => dfs_complete (Reach.step e (dfs_sound hz))) (edge_mem_nodes e).1
    (dfs_complete (Reach.refl x)) ?_
  cases h : hasPath g y x with
  | false => rfl
  | true => exact absurd (dfs_sound h) (hac x y e)

theorem acyclic_induction {g : Graph} (hac : Acyclic g) (P : Nat → Prop)
    (hstep : ∀ x, (∀ y, Edge g x y → P y) → P x) : ∀ x, P x := by
  intro x
  generalize hn : rank g x = n
  induction n using Nat.strongRecOn generalizing x with
  | _ n ih =>
    apply hstep
    intro y e
    exact ih (rank g y) (hn ▸ rank_lt hac e) y rfl

/-! ### Kahn's algorithm: the loop invariant -/

/-- number of (occurrences of) dependencies of `m` not yet emitted -/
def unem (g : Graph) (sorted : List Nat) (m : Nat) : Nat :=
  (succs g m).countP fun y => !sorted.contains y

/-- the in-degree table the loop carries when `sorted` has been emitted -/
def degOf (g : Graph) (all sorted : List Nat) : List (Nat × Nat) :=
  all.map fun m => (m, unem g sorted m)

theorem unem_nil (g : Graph) (m : Nat) : unem g [] m = (succs g m).length := by
  simp [unem]

theorem degOf_keys (g : Graph) (all sorted : List Nat) : (degOf g all sorted).map (·.1) = all := by
  rw [degOf, List.map_map]
  exact List.map_id _

theorem unem_eq_zero {g : Graph} {sorted : List Nat} {m : Nat} :
    unem g sorted m = 0 ↔ ∀ y, y ∈ succs g m → y ∈ sorted := by
  simp [unem]

theorem unem_cons_zero {g : Graph} {sorted : List Nat} {m : Nat} (c : Nat) (h : unem g sorted m = 0) :
    unem g (c :: sorted) m = 0 := by
  rw [unem_eq_zero] at h ⊢
  intro y hy; exact List.mem_cons_of_mem _ (h y hy)

theorem unem_cons (g : Graph) (sorted : List Nat) (c m : Nat) (hc : c ∉ sorted) :
    unem g (c :: sorted) m = unem g sorted m - (succs g m).count c := by
  have h : unem g (c :: sorted) m + (succs g m).count c = unem g sorted m := by
    unfold unem
    induction succs g m with
    | nil => rfl
    | cons y l ih =>
      -- what `y` contributes on the two sides
      have hy : (if !(c :: sorted).contains y then 1 else 0) + (if y == c then 1 else 0) =
          if !sorted.contains y then 1 else 0 := by
        by_cases hyc : y = c
        · subst hyc; simp [hc]
        · simp [hyc]
      rw [List.countP_cons, List.countP_cons, List.count_cons, ← ih, ← hy]
      exact Nat.add_add_add_comm _ _ _ _
  omega

theorem getDeg_map (f : Nat → Nat) (all : List Nat) (m : Nat) (hm : m ∈ all) :
    getDeg (all.map fun m => (m, f m)) m = f m := by
  induction all with
  | nil => cases hm
  | cons a all ih =>
    simp only [getDeg, List.map_cons, List.find?_cons] at ih ⊢
    by_cases ha : a = m
    · simp [ha]
    · simp only [show (a == m) = false by simpa using ha]
      exact ih ((List.mem_cons.1 hm).resolve_left (Ne.symm ha))

def newReady (g : Graph) (all sorted : List Nat) (c : Nat) : List Nat :=
  all.filter fun m => unem g (c :: sorted) m == 0 && unem g sorted m != 0

theorem mem_newReady {g : Graph} {all sorted : List Nat} {c m : Nat} :
    m ∈ newReady g all sorted c ↔ m ∈ all ∧ unem g (c :: sorted) m = 0 ∧ unem g sorted m ≠ 0 := by
  simp [newReady]

theorem kahnStep_degOf (g : Graph) (all sorted : List Nat) (c : Nat) (hc : c ∉ sorted) :
    kahnStep g (degOf g all sorted) c = (degOf g all (c :: sorted), sortNat (newReady g all sorted c)) := by
  have hdeg : (degOf g all sorted).map (fun (p : Nat × Nat) => (p.1, p.2 - (succs g p.1).count c))
      = degOf g all (c :: sorted) := by
    unfold degOf
    rw [List.map_map]
    apply List.map_congr_left
    intro m _
    simp [unem_cons g sorted c m hc]
  unfold kahnStep
  simp only []
  rw [hdeg]
  congr 2
  -- the filter runs over the new table and reads the old degrees through `getDeg_map`: on keys it is `newReady`
  unfold newReady
  conv => lhs; unfold degOf
  rw [List.filter_map, List.map_map]
  have : ((fun (x : Nat × Nat) => x.1) ∘ fun m => (m, unem g (c :: sorted) m)) = id := rfl
  rw [this, List.map_id]
  apply List.filter_congr
  intro m hm
  simp only [Function.comp]
  rw [getDeg_map (fun m => unem g sorted m) all m hm]

/-- `sorted` (most recent first): every dependency of an emitted module was emitted earlier -/
def Good (g : Graph) (sorted : List Nat) : Prop :=
  ∀ l a rest, sorted = l ++ a :: rest → ∀ y, y ∈ succs g a → y ∈ rest

theorem Good.cons {g : Graph} {sorted : List Nat} {c : Nat} (h : Good g sorted)
    (hc : ∀ y, y ∈ succs g c → y ∈ sorted) : Good g (c :: sorted) := by
  intro l a rest hl
  cases l with
  | nil => cases hl; exact hc
  | cons x l => cases hl; exact h l a rest rfl

/-- loop invariant.  `sorted.reverse ++ queue` is the order of emission: what has been emitted, then what is
    waiting.  `ready` (the completeness part) holds at the start only if every key of the graph is in `mods`:
    it is stated under that condition `R` -/
structure KInv (R : Prop) (g : Graph) (all queue sorted : List Nat) : Prop where
  nodup : (sorted.reverse ++ queue).Nodup
  served : ∀ m, m ∈ sorted.reverse ++ queue → m ∈ all ∧ unem g sorted m = 0
  good : Good g sorted
  ready : R → ∀ m, m ∈ all → unem g sorted m = 0 → m ∈ sorted.reverse ++ queue

theorem KInv.step {R : Prop} {g : Graph} {all queue sorted : List Nat} {c : Nat}
    (h : KInv R g all (c :: queue) sorted) (hall : all.Nodup) :
    KInv R g all (queue ++ sortNat (newReady g all sorted c)) (c :: sorted) := by
  -- the order of emission grows at its end, by the newly ready modules
  have e : (c :: sorted).reverse ++ (queue ++ sortNat (newReady g all sorted c)) =
      (sorted.reverse ++ c :: queue) ++ sortNat (newReady g all sorted c) := by simp
  have hc := (h.served c (List.mem_append_right _ List.mem_cons_self)).2
  refine ⟨?_, ?_, h.good.cons (unem_eq_zero.1 hc), ?_⟩
  · -- the newly ready modules had a dependency pending, the earlier ones had none
    rw [e, List.nodup_append]
    refine ⟨h.nodup, nodup_sortNat (hall.filter _), fun a ha b hb hab => ?_⟩
    rw [mem_sortNat, mem_newReady] at hb
    exact hb.2.2 (hab ▸ (h.served a ha).2)
  · intro m hm
    rw [e, List.mem_append, mem_sortNat, mem_newReady] at hm
    rcases hm with hm | hm
    · exact ⟨(h.served m hm).1, unem_cons_zero c (h.served m hm).2⟩
    · exact ⟨hm.1, hm.2.1⟩
  · intro hR m hm hu
    rw [e, List.mem_append, mem_sortNat, mem_newReady]
    by_cases h0 : unem g sorted m = 0
    · exact Or.inl (h.ready hR m hm h0)
    · exact Or.inr ⟨hm, hu, h0⟩

/-- the loop ends with an empty queue (never by exhausting the fuel) in a state satisfying the invariant -/
theorem kahnLoop_spec {R : Prop} {g : Graph} {all : List Nat} (hall : all.Nodup)
    {fuel : Nat} {queue : List Nat} {deg : List (Nat × Nat)} {sorted : List Nat} (hdeg : deg = degOf g all sorted)
    (h : KInv R g all queue sorted) (hf : all.length + 1 ≤ fuel + sorted.length) :
    ∃ final, kahnLoop g fuel queue deg sorted = final.reverse ∧ KInv R g all [] final := by
  fun_induction kahnLoop g fuel queue deg sorted with
  | case1 =>
    have := (List.nodup_append.1 h.nodup).1.length_le_of_subset fun x hx => (h.served x (List.mem_append_left _ hx)).1
    rw [List.length_reverse] at this
    omega
  | case2 => exact ⟨_, rfl, h⟩
  | case3 fuel c queue deg sorted deg' next hk ih =>
    have hcs : c ∉ sorted :=
      fun x => (List.nodup_append.1 h.nodup).2.2 c (List.mem_reverse.2 x) c List.mem_cons_self rfl
    rw [hdeg, kahnStep_degOf g all sorted c hcs] at hk
    cases hk
    exact ih rfl (h.step hall) (by simp only [List.length_cons]; omega)

/-! ### `topo` -/

/-- the module universe of `topo` -/
def topoAll (g : Graph) (mods : List Nat) : List Nat := (mods ++ g.map (·.1)).eraseDups

def topoQueue (g : Graph) (mods : List Nat) : List Nat :=
  sortNat ((mods.eraseDups).filter fun m => (succs g m).length == 0)

theorem topo_eq (g : Graph) (mods : List Nat) :
    topo g mods = kahnLoop g ((topoAll g mods).length + 1) (topoQueue g mods)
      (degOf g (topoAll g mods) []) [] := by
  unfold topo topoAll topoQueue degOf
  simp only [unem_nil]

theorem mem_topoAll {g : Graph} {mods : List Nat} {x : Nat} :
    x ∈ topoAll g mods ↔ x ∈ mods ∨ x ∈ g.map (·.1) := by
  rw [topoAll, List.mem_eraseDups, List.mem_append]

theorem mem_topoQueue {g : Graph} {mods : List Nat} {x : Nat} :
    x ∈ topoQueue g mods ↔ x ∈ mods ∧ (succs g x).length = 0 := by
  unfold topoQueue
  rw [mem_sortNat, List.mem_filter, List.mem_eraseDups]
  simp

theorem kinv_init (g : Graph) (mods : List Nat) :
    KInv (∀ x, x ∈ g.map (·.1) → x ∈ mods) g (topoAll g mods) (topoQueue g mods) [] := by
  refine ⟨?_, ?_, fun l a rest h => by simp at h, ?_⟩
  · exact nodup_sortNat ((nodup_eraseDups _).filter _)
  · intro m hm
    have hm := mem_topoQueue.1 hm
    exact ⟨mem_topoAll.2 (Or.inl hm.1), by rw [unem_nil]; exact hm.2⟩
  · intro hR m hm hu
    rw [unem_nil] at hu
    exact mem_topoQueue.2 ⟨(mem_topoAll.1 hm).elim id (hR m), hu⟩

theorem topo_spec (g : Graph) (mods : List Nat) :
    ∃ final, topo g mods = final.reverse ∧
      KInv (∀ x, x ∈ g.map (·.1) → x ∈ mods) g (topoAll g mods) [] final := by
  rw [topo_eq]
  exact kahnLoop_spec (all := topoAll g mods) (nodup_eraseDups _) rfl (kinv_init g mods) (by simp)

theorem topo_nodup (g : Graph) (mods : List Nat) : (topo g mods).Nodup := by
  obtain ⟨final, h1, h2⟩ := topo_spec g mods
  rw [h1]
  exact List.append_nil final.reverse ▸ h2.nodup

theorem topo_order (g : Graph) (mods : List Nat) {a b : Nat} (e : Edge g a b) (ha : a ∈ topo g mods) :
    ∃ l1 l2 l3, topo g mods = l1 ++ b :: l2 ++ a :: l3 := by
  obtain ⟨final, h1, h2⟩ := topo_spec g mods
  rw [h1] at ha ⊢
  rw [List.mem_reverse] at ha
  obtain ⟨l, rest, hl⟩ := List.append_of_mem ha
  obtain ⟨r1, r2, hr2⟩ := List.append_of_mem (h2.good l a rest hl b e)
  refine ⟨r2.reverse, r1.reverse, l.reverse, ?_⟩
  rw [hl, hr2]
  simp

theorem topo_dep_mem (g : Graph) (mods : List Nat) {a b : Nat} (e : Edge g a b) (ha : a ∈ topo g mods) :
    b ∈ topo g mods := by
  obtain ⟨l1, l2, l3, h⟩ := topo_order g mods e ha
  rw [h]; simp

theorem topo_order_idx (g : Graph) (mods : List Nat) {a b : Nat} (e : Edge g a b) (ha : a ∈ topo g mods) :
    (topo g mods).idxOf b < (topo g mods).idxOf a := by
  obtain ⟨l1, l2, l3, h⟩ := topo_order g mods e ha
  have hnd := topo_nodup g mods
  rw [h] at hnd ⊢
  -- `b` lies in the prefix `l1 ++ b :: l2`, which `a` (no duplicates) does not meet
  have ha' : a ∉ l1 ++ b :: l2 := fun hm => (List.nodup_append.1 hnd).2.2 a hm a List.mem_cons_self rfl
  rw [List.idxOf_append, List.idxOf_append (l₁ := l1 ++ b :: l2), if_pos (by simp), if_neg ha',
    List.idxOf_cons_self, Nat.zero_add]
  exact List.idxOf_lt_length_of_mem (by simp)

theorem topo_complete (g : Graph) (mods : List Nat) (hac : Acyclic g) (hmods : mods.Nodup)
    (hnodes : ∀ x, x ∈ nodes g → x ∈ mods) : (topo g mods).Perm mods := by
  obtain ⟨final, h1, h2⟩ := topo_spec g mods
  have hR : ∀ x, x ∈ g.map (·.1) → x ∈ mods :=
    fun x h => hnodes x (List.mem_eraseDups.2 (List.mem_append_left _ h))
  have hallmods : ∀ x, x ∈ topoAll g mods ↔ x ∈ mods :=
    fun x => mem_topoAll.trans ⟨fun h => h.elim id (hR x), Or.inl⟩
  -- with all its dependencies emitted a module has `unem` 0, and at the end (empty queue) `ready` puts it in `final`
  have hall : ∀ x, x ∈ topoAll g mods → x ∈ final := by
    apply acyclic_induction hac (fun x => x ∈ topoAll g mods → x ∈ final)
    intro x ih hx
    have hu : unem g final x = 0 := by
      rw [unem_eq_zero]
      intro y hy
      exact ih y hy ((hallmods y).2 (hnodes y (edge_mem_nodes hy).2))
    simpa using h2.ready hR x hx hu
  rw [h1, List.perm_ext_iff_of_nodup (List.append_nil final.reverse ▸ h2.nodup) hmods]
  intro x
  rw [← hallmods]
  exact ⟨fun hx => (h2.served x (List.mem_append_left _ hx)).1, fun hx => List.mem_reverse.2 (hall x hx)⟩

/-- on an acyclic graph, with `mods` duplicate-free and containing every node:
    the result is duplicate-free, a permutation of `mods`, and every dependency precedes its importer -/
theorem topo_sound (g : Graph) (mods : List Nat) (hac : Acyclic g) (hmods : mods.Nodup)
    (hnodes : ∀ x, x ∈ nodes g → x ∈ mods) :
    (topo g mods).Nodup ∧ (topo g mods).Perm mods ∧
      ∀ a b, Edge g a b → (topo g mods).idxOf b < (topo g mods).idxOf a ∧
        ∃ l1 l2 l3, topo g mods = l1 ++ b :: l2 ++ a :: l3 := by
  have hperm := topo_complete g mods hac hmods hnodes
  refine ⟨topo_nodup g mods, hperm, fun a b e => ?_⟩
  have ha : a ∈ topo g mods := hperm.mem_iff.2 (hnodes a (edge_mem_nodes e).1)
  exact ⟨topo_order_idx g mods e ha, topo_order g mods e ha⟩

/-! ### independence of the map iteration order -/

theorem succs_perm {g g' : Graph} (h : g.Perm g') (hnd : NoDupKeys g) : succs g = succs g' := by
  funext a
  unfold succs
  rw [find?_key_perm h hnd a]

theorem getDeg_perm {d d' : List (Nat × Nat)} (h : d.Perm d') (hnd : (d.map (·.1)).Nodup) :
    getDeg d = getDeg d' := by
  funext m
  unfold getDeg
  rw [find?_key_perm h hnd m]

theorem kahnStep_perm (g : Graph) {d d' : List (Nat × Nat)} (h : d.Perm d') (hnd : (d.map (·.1)).Nodup)
    (c : Nat) :
    (kahnStep g d c).1.Perm (kahnStep g d' c).1 ∧ (kahnStep g d c).2 = (kahnStep g d' c).2 ∧
      ((kahnStep g d c).1.map (·.1)) = d.map (·.1) := by
  unfold kahnStep
  simp only []
  rw [getDeg_perm h hnd]
  refine ⟨h.map _, sortNat_eq_of_perm (((h.map _).filter _).map _), ?_⟩
  rw [List.map_map]
  exact List.map_congr_left fun _ _ => rfl

/-- the loop reads the graph only through `succs`, and the table only as a map -/
theorem kahnLoop_perm {g g' : Graph} (hs : succs g' = succs g) {fuel : Nat} {queue : List Nat}
    {d d' : List (Nat × Nat)} {sorted : List Nat} (h : d.Perm d') (hnd : (d.map (·.1)).Nodup) :
    kahnLoop g fuel queue d sorted = kahnLoop g' fuel queue d' sorted := by
  fun_induction kahnLoop g fuel queue d sorted generalizing d' with
  | case1 => rw [kahnLoop.eq_1]
  | case2 fuel d sorted hf => rw [kahnLoop.eq_2 _ _ _ _ hf]
  | case3 fuel c queue d sorted d1 next hk ih =>
    rw [kahnLoop.eq_3, show kahnStep g' d' c = kahnStep g d' c by unfold kahnStep; rw [hs]]
    obtain ⟨h1, h2, h3⟩ := kahnStep_perm g h hnd c
    rw [hk] at h1 h2 h3
    generalize kahnStep g d' c = r2 at h1 h2
    obtain ⟨d2, n2⟩ := r2
    cases h2
    exact ih h1 (h3 ▸ hnd)

/-- the topological order does not depend on the iteration order of the Go maps: neither on the order
    of the association list `g` nor on the order of `mods` -/
theorem topo_perm_invariant {g g' : Graph} {mods mods' : List Nat} (hg : g.Perm g') (hnd : NoDupKeys g)
    (hm : mods.Perm mods') : topo g' mods' = topo g mods := by
  have hs : succs g' = succs g := (succs_perm hg hnd).symm
  have hall : (topoAll g' mods').Perm (topoAll g mods) := eraseDups_perm (hm.symm.append (hg.symm.map _))
  have hq : topoQueue g' mods' = topoQueue g mods := by
    unfold topoQueue
    rw [hs]
    exact sortNat_eq_of_perm ((eraseDups_perm hm.symm).filter _)
  rw [topo_eq, topo_eq, hq, hall.length_eq]
  refine (kahnLoop_perm hs ?_ ?_).symm
  · unfold degOf unem
    rw [hs]
    exact hall.symm.map _
  · rw [degOf_keys]
    exact nodup_eraseDups _

/-! ### concrete instances -/

/-- diamond 1 → {2,3} → 4: dependencies first, ties by module number -/
example : topo [(1, [2, 3]), (2, [4]), (3, [4])] [1, 2, 3, 4] = [4, 2, 3, 1] := by decide

/-- same graph and modules presented in another (map) order -/
example : topo [(3, [4]), (1, [2, 3]), (2, [4])] [4, 3, 2, 1] = [4, 2, 3, 1] := by decide

/-- on a 3-cycle nothing is ever ready: the order is empty (modules are silently dropped, which is why
    `topo_complete` needs `Acyclic`) -/
example : topo [(1, [2]), (2, [3]), (3, [1])] [1, 2, 3] = [] := by decide

/-- a cycle below an acyclic part: only the acyclic part is emitted -/
example : topo [(1, [2]), (2, [1]), (3, [4])] [1, 2, 3, 4] = [4, 3] := by decide

end FerretVerif.DepGraph
