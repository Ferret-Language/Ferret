/-
  The import graph. `dfs` and its loop over the successors are one recursion, so both directions of
  `hasPath g a b = true ↔ Reach g a b` are its functional induction with a second motive for the loop: a search that
  answers `true` has followed a path; one that answers `false` has added to the visited list a set that avoids the
  target and is closed under successors (`DInv`), which no path from the start leaves. The verdict of a whole
  sequence of `addDep` attempts is stated on its edge set: `ReachE`/`EAcyclic` are reachability and acyclicity in a
  list of pairs, and no attempt is rejected iff the list is `EAcyclic`, whatever the order and the repetitions.
-/
import FerretVerif.Model.DepGraph
import FerretVerif.Proofs.AssocList

namespace FerretVerif.DepGraph

/-! ### specification-level notions -/

/-- `a` imports `b` -/
def Edge (g : Graph) (a b : Nat) : Prop := b ∈ succs g a

instance (g : Graph) (a b : Nat) : Decidable (Edge g a b) := inferInstanceAs (Decidable (b ∈ succs g a))

inductive Reach (g : Graph) : Nat → Nat → Prop
  | refl (a : Nat) : Reach g a a
  | step {a b c : Nat} : Edge g a b → Reach g b c → Reach g a c

/-- no edge closes a cycle (a self-loop is a cycle) -/
def Acyclic (g : Graph) : Prop := ∀ a b, Edge g a b → ¬ Reach g b a

/-- each importer appears once as a key -/
def NoDupKeys (g : Graph) : Prop := (g.map (·.1)).Nodup

theorem Reach.trans {g : Graph} {a b c : Nat} (h1 : Reach g a b) (h2 : Reach g b c) : Reach g a c := by
  induction h1 with
  | refl _ => exact h2
  | step e _ ih => exact Reach.step e (ih h2)

theorem Reach.single {g : Graph} {a b : Nat} (e : Edge g a b) : Reach g a b :=
  Reach.step e (Reach.refl b)

theorem Reach.tail {g : Graph} {a b c : Nat} (h : Reach g a b) (e : Edge g b c) : Reach g a c :=
  h.trans (Reach.single e)

theorem Reach.mono {g g' : Graph} (hsub : ∀ a b, Edge g a b → Edge g' a b) {a b : Nat}
    (h : Reach g a b) : Reach g' a b := by
  induction h with
  | refl _ => exact Reach.refl _
  | step e _ ih => exact Reach.step (hsub _ _ e) ih

theorem reach_closed {g : Graph} {S : Nat → Prop} (hS : ∀ x y, S x → Edge g x y → S y)
    {a b : Nat} (h : Reach g a b) (ha : S a) : S b := by
  induction h with
  | refl _ => exact ha
  | step e _ ih => exact ih (hS _ _ ha e)

/-! ### nodes -/

theorem succs_eq_of_find {g : Graph} {a : Nat} {p : Nat × List Nat}
    (h : g.find? (·.1 == a) = some p) : succs g a = p.2 := by
  unfold succs; rw [h]

theorem succs_mem_graph {g : Graph} {a y : Nat} (h : y ∈ succs g a) : ∃ ds, (a, ds) ∈ g ∧ y ∈ ds := by
  revert h
  fun_cases succs g a with
  | case1 n ds hf =>
    intro h
    have h2 : n = a := by simpa using List.find?_some hf
    exact ⟨ds, h2 ▸ List.mem_of_find?_eq_some hf, h⟩
  | case2 => exact fun h => absurd h List.not_mem_nil

theorem mem_nodes {g : Graph} {x : Nat} :
    x ∈ nodes g ↔ (∃ ds, (x, ds) ∈ g) ∨ (∃ a ds, (a, ds) ∈ g ∧ x ∈ ds) := by
  unfold nodes
  rw [List.mem_eraseDups, List.mem_append, List.mem_map, List.mem_flatMap]
  constructor
  · rintro (⟨⟨a, ds⟩, h1, h2⟩ | ⟨⟨a, ds⟩, h1, h2⟩)
    · simp at h2; subst h2; exact Or.inl ⟨ds, h1⟩
    · exact Or.inr ⟨a, ds, h1, h2⟩
  · rintro (⟨ds, h⟩ | ⟨a, ds, h1, h2⟩)
    · exact Or.inl ⟨(x, ds), h, rfl⟩
    · exact Or.inr ⟨(a, ds), h1, h2⟩

theorem edge_mem_nodes {g : Graph} {a b : Nat} (h : Edge g a b) : a ∈ nodes g ∧ b ∈ nodes g := by
  obtain ⟨ds, h1, h2⟩ := succs_mem_graph h
  exact ⟨mem_nodes.2 (Or.inl ⟨ds, h1⟩), mem_nodes.2 (Or.inr ⟨a, ds, h1, h2⟩)⟩

/-! ### DFS soundness -/

theorem dfs_true {g : Graph} {t fuel start : Nat} {vis : List Nat}
    (h : (dfs g t fuel start vis).1 = true) : Reach g start t := by
  -- one case per branch of the loop over the successors (1–3, `motive1`) and of `dfs` itself (4–7)
  induction fuel, start, vis using dfs.induct (g := g) (target := t)
    (motive1 := fun fuel ds vis => (dfs.loop g t fuel ds vis).1 = true → ∃ d, d ∈ ds ∧ Reach g d t) with
  | case1 fuel vis => rename_i h; simp [dfs.loop] at h
  | case2 fuel d ds vis v1 hd ih => exact ⟨d, List.mem_cons_self, ih (by rw [hd])⟩
  | case3 fuel d ds vis v1 hd _ ih =>
    rename_i h
    rw [dfs.loop, hd] at h
    obtain ⟨d', hm, hr⟩ := ih h
    exact ⟨d', List.mem_cons_of_mem _ hm, hr⟩
  | case4 x vis => simp [dfs] at h
  | case5 fuel start vis heq => rw [beq_iff_eq.1 heq]; exact Reach.refl _
  | case6 fuel start vis hne hc => rw [dfs, if_neg hne, if_pos hc] at h; cases h
  | case7 fuel start vis hne hc ih =>
    rw [dfs, if_neg hne, if_neg hc] at h
    obtain ⟨d, hm, hr⟩ := ih h
    exact Reach.step hm hr

theorem dfs_sound {g : Graph} {a b : Nat} (h : hasPath g a b = true) : Reach g a b :=
  dfs_true h

/-! ### counting -/

theorem le_sum_of_mem (w : Nat → Nat) {l : List Nat} {x : Nat} (hx : x ∈ l) : w x ≤ (l.map w).sum := by
  induction l with
  | nil => cases hx
  | cons y l ih =>
    rw [List.map_cons, List.sum_cons]
    rcases List.mem_cons.1 hx with rfl | hx
    · exact Nat.le_add_right _ _
    · exact Nat.le_trans (ih hx) (Nat.le_add_left _ _)

/-- the counting argument behind the three measures `unv`, `rank` (in DepTopo) and `unseenW` (in DepSched) -/
theorem sum_filter_split (w : Nat → Nat) {p q : Nat → Bool} (hpq : ∀ z, p z = true → q z = true)
    (l : List Nat) :
    ((l.filter q).map w).sum =
      ((l.filter p).map w).sum + ((l.filter fun z => q z && !p z).map w).sum := by
  induction l with
  | nil => rfl
  | cons y l ih =>
    cases hp : p y with
    | true => simp [hp, hpq y hp, ih, Nat.add_assoc]
    | false => cases hq : q y <;> simp [hp, hq, ih] <;> omega

theorem sum_filter_add_le (w : Nat → Nat) {p q : Nat → Bool} (hpq : ∀ z, p z = true → q z = true)
    {l : List Nat} {x : Nat} (hx : x ∈ l) (hq : q x = true) (hp : p x = false) :
    ((l.filter p).map w).sum + w x ≤ ((l.filter q).map w).sum :=
  sum_filter_split w hpq l ▸ Nat.add_le_add_left (le_sum_of_mem w (List.mem_filter.2 ⟨hx, by simp [hq, hp]⟩)) _

theorem countP_lt_countP {p q : Nat → Bool} (hpq : ∀ z, p z = true → q z = true) {l : List Nat} {x : Nat}
    (hx : x ∈ l) (hq : q x = true) (hp : p x = false) : l.countP p < l.countP q := by
  rw [List.countP_eq_length_filter, List.countP_eq_length_filter, Nat.lt_iff_add_one_le]
  simpa [List.map_const', List.sum_replicate_nat] using sum_filter_add_le (fun _ => 1) hpq hx hq hp

/-! ### DFS completeness -/

def unv (U vis : List Nat) : Nat := U.countP fun x => !vis.contains x

theorem unv_mono (U : List Nat) {vis vis' : List Nat} (h : ∀ x, x ∈ vis → x ∈ vis') :
    unv U vis' ≤ unv U vis :=
  List.countP_mono_left fun z _ hz => by simp at hz ⊢; exact fun hv => hz (h z hv)

theorem unv_lt {U vis : List Nat} {x : Nat} (hx : x ∈ U) (hv : x ∉ vis) : unv U (x :: vis) < unv U vis :=
  countP_lt_countP (fun z hz => by simp at hz ⊢; exact hz.2) hx (by simpa using hv) (by simp)

/-- the set added between `vis` and `vis'` avoids the target and is closed under successors -/
def DInv (g : Graph) (t : Nat) (vis vis' : List Nat) : Prop :=
  (∀ x, x ∈ vis → x ∈ vis') ∧
  ∀ x, x ∈ vis' → x ∉ vis → x ≠ t ∧ ∀ y, y ∈ succs g x → y ∈ vis'

theorem DInv.refl {g : Graph} {t : Nat} {vis : List Nat} : DInv g t vis vis :=
  ⟨fun _ h => h, fun _ h1 h2 => absurd h1 h2⟩

theorem DInv.trans {g : Graph} {t : Nat} {v1 v2 v3 : List Nat}
    (h12 : DInv g t v1 v2) (h23 : DInv g t v2 v3) : DInv g t v1 v3 := by
  refine ⟨fun x hx => h23.1 x (h12.1 x hx), fun x hx hn => ?_⟩
  by_cases h2 : x ∈ v2
  · obtain ⟨hne, hs⟩ := h12.2 x h2 hn
    exact ⟨hne, fun y hy => h23.1 y (hs y hy)⟩
  · exact h23.2 x hx h2

/-- the fuel is measured against the unvisited part of a successor-closed universe `U` -/
theorem dfs_false {g : Graph} {t : Nat} {U : List Nat} (hU : ∀ x, x ∈ U → ∀ y, y ∈ succs g x → y ∈ U)
    {fuel start : Nat} {vis vis' : List Nat} (hs : start ∈ U) (hf : unv U vis + 1 ≤ fuel)
    (h : dfs g t fuel start vis = (false, vis')) : DInv g t vis vis' ∧ start ∈ vis' := by
  induction fuel, start, vis using dfs.induct (g := g) (target := t)
    (motive1 := fun fuel ds vis => ∀ vis', (∀ d, d ∈ ds → d ∈ U) → unv U vis + 1 ≤ fuel →
      dfs.loop g t fuel ds vis = (false, vis') → DInv g t vis vis' ∧ ∀ d, d ∈ ds → d ∈ vis')
    generalizing vis' with
  | case1 fuel vis =>
    rename_i h
    rw [dfs.loop] at h; cases h
    exact ⟨DInv.refl, fun d hd => absurd hd List.not_mem_nil⟩
  | case2 fuel d ds vis v1 hd =>
    rename_i h
    rw [dfs.loop, hd] at h; cases h
  | case3 fuel d ds vis v1 hd ih2 ih1 =>
    rename_i vis' hn hf h
    rw [dfs.loop, hd] at h
    obtain ⟨i1, m1⟩ := ih2 (hn d List.mem_cons_self) hf hd
    obtain ⟨i2, m2⟩ := ih1 vis' (fun d' hd' => hn d' (List.mem_cons_of_mem _ hd'))
      (Nat.le_trans (Nat.succ_le_succ (unv_mono U i1.1)) hf) h
    refine ⟨i1.trans i2, fun d' hd' => ?_⟩
    rcases List.mem_cons.1 hd' with rfl | hd'
    · exact i2.1 _ m1
    · exact m2 d' hd'
  | case4 x vis => omega
  | case5 fuel start vis heq => rw [dfs, if_pos heq] at h; cases h
  | case6 fuel start vis hne hc =>
    rw [dfs, if_neg hne, if_pos hc] at h; cases h
    exact ⟨DInv.refl, List.contains_iff_mem.1 hc⟩
  | case7 fuel start vis hne hc ih =>
    rw [dfs, if_neg hne, if_neg hc] at h
    have hlt := unv_lt hs fun h => hc (List.contains_iff_mem.2 h)
    obtain ⟨i1, m1⟩ := ih vis' (hU start hs) (by omega) h
    refine ⟨⟨fun x hx => i1.1 x (List.mem_cons_of_mem _ hx), fun x hx hn => ?_⟩, i1.1 _ List.mem_cons_self⟩
    by_cases hxs : x = start
    · subst hxs; exact ⟨fun h => hne (beq_iff_eq.2 h), m1⟩
    · exact i1.2 x hx (List.not_mem_cons_of_ne_of_not_mem hxs hn)

/-- with the universe `a :: nodes g`, a failed search leaves a visited set that contains `a`, is closed under
    successors and avoids `b` -/
theorem dfs_complete {g : Graph} {a b : Nat} (h : Reach g a b) : hasPath g a b = true := by
  unfold hasPath
  rcases hr : dfs g b ((nodes g).length + 2) a [] with ⟨_ | _, vis'⟩
  · obtain ⟨i1, ha⟩ := dfs_false (U := a :: nodes g)
      (fun x _ y hy => List.mem_cons_of_mem _ (edge_mem_nodes hy).2) List.mem_cons_self
      (by simp [unv]) hr
    have hbv : b ∈ vis' :=
      reach_closed (S := fun x => x ∈ vis') (fun x y hx e => (i1.2 x hx List.not_mem_nil).2 y e) h ha
    exact absurd rfl (i1.2 b hbv List.not_mem_nil).1
  · rfl

theorem dfs_correct (g : Graph) (a b : Nat) : hasPath g a b = true ↔ Reach g a b :=
  ⟨dfs_sound, dfs_complete⟩

instance (g : Graph) (a b : Nat) : Decidable (Reach g a b) :=
  decidable_of_iff _ (dfs_correct g a b)

/-! ### AddDependency -/

/-- an import is rejected exactly when the imported module already reaches the importer -/
theorem addDep_none_iff (g : Graph) (a b : Nat) : addDep g a b = none ↔ Reach g b a := by
  rw [← dfs_correct]
  fun_cases addDep g a b <;> simp [*]

theorem addDep_some {g g' : Graph} {a b : Nat} (h : addDep g a b = some g') :
    (Edge g a b ∧ g' = g) ∨ g' = insertEdge g a b := by
  revert h
  fun_cases addDep g a b with
  | case1 => exact fun h => nomatch h
  | case2 _ hc => rintro ⟨⟩; exact Or.inl ⟨by simpa [Edge] using hc, rfl⟩
  | case3 => rintro ⟨⟩; exact Or.inr rfl

theorem addDep_self (g : Graph) (a : Nat) : addDep g a a = none :=
  (addDep_none_iff g a a).2 (Reach.refl a)

theorem succs_insertEdge (g : Graph) (a b x : Nat) :
    succs (insertEdge g a b) x = if x = a then succs g a ++ [b] else succs g x := by
  unfold insertEdge
  split
  · next hany =>
    unfold succs
    rw [find?_map_of_comp _ (q := (·.1 == x)) (by intro ⟨n, ds⟩; simp only []; split <;> rfl)]
    cases hfd : g.find? (·.1 == x) with
    | none =>
      have hx : x ≠ a := fun hx => find?_eq_none_iff_not_any.1 (hx ▸ hfd) hany
      simp [hx]
    | some p =>
      have hn : p.1 = x := by simpa using List.find?_some hfd
      subst hn
      by_cases hx : p.1 = a
      · subst hx; simp [hfd]
      · simp [hx]
  · next hany =>
    unfold succs
    rw [List.find?_append]
    by_cases hx : x = a
    · subst hx; simp [find?_eq_none_iff_not_any.2 hany]
    · simp [hx, Ne.symm hx]

theorem edge_insertEdge (g : Graph) (a b x y : Nat) :
    Edge (insertEdge g a b) x y ↔ Edge g x y ∨ (x = a ∧ y = b) := by
  unfold Edge
  rw [succs_insertEdge]
  by_cases hx : x = a
  · subst hx; simp
  · simp [hx]

theorem edge_addDep {g g' : Graph} {a b : Nat} (h : addDep g a b = some g') (x y : Nat) :
    Edge g' x y ↔ Edge g x y ∨ (x = a ∧ y = b) := by
  rcases addDep_some h with ⟨hc, rfl⟩ | rfl
  · exact ⟨Or.inl, fun h => h.elim id fun ⟨hx, hy⟩ => hx ▸ hy ▸ hc⟩
  · exact edge_insertEdge g a b x y

theorem reach_add_edge {g g' : Graph} {a b : Nat}
    (he : ∀ x y, Edge g' x y ↔ Edge g x y ∨ (x = a ∧ y = b)) {x y : Nat} (h : Reach g' x y) :
    Reach g x y ∨ (Reach g x a ∧ Reach g b y) := by
  induction h with
  | refl _ => exact Or.inl (Reach.refl _)
  | step e _ ih =>
    rcases (he _ _).1 e with e' | ⟨rfl, rfl⟩
    · rcases ih with h | ⟨h1, h2⟩
      · exact Or.inl (Reach.step e' h)
      · exact Or.inr ⟨Reach.step e' h1, h2⟩
    · exact Or.inr ⟨Reach.refl _, ih.elim id And.right⟩

theorem acyclic_nil : Acyclic [] := by
  intro a b e
  simp [Edge, succs] at e

theorem acyclic_invariant {g g' : Graph} {a b : Nat} (hac : Acyclic g) (h : addDep g a b = some g') :
    Acyclic g' := by
  have hnr : ¬ Reach g b a := by
    intro hr
    rw [(addDep_none_iff g a b).2 hr] at h
    simp at h
  have he := edge_addDep h
  intro x y e hr
  rcases (he x y).1 e with e' | ⟨rfl, rfl⟩
  · rcases reach_add_edge he hr with h1 | ⟨h1, h2⟩
    · exact hac x y e' h1
    · exact hnr (h2.trans (Reach.step e' h1))
  · exact hnr ((reach_add_edge he hr).elim id And.left)

/-! ### `insertEdge` / `addDep` preserve `NoDupKeys` -/

theorem noDupKeys_nil : NoDupKeys [] := by simp [NoDupKeys]

theorem noDupKeys_insertEdge {g : Graph} (h : NoDupKeys g) (a b : Nat) : NoDupKeys (insertEdge g a b) := by
  unfold insertEdge NoDupKeys at *
  split
  · rw [map_fst_map fun (n, ds) => by dsimp only; split <;> rfl]
    exact h
  · next hany =>
    rw [List.map_append, List.nodup_append]
    refine ⟨h, by simp, fun x hx y hy hxy => hany ?_⟩
    obtain ⟨p, hp, hpx⟩ := List.mem_map.1 hx
    exact List.any_eq_true.2 ⟨p, hp, beq_iff_eq.2 (hpx.trans (hxy.trans (List.mem_singleton.1 hy)))⟩

theorem noDupKeys_addDep {g g' : Graph} {a b : Nat} (h : NoDupKeys g) (hd : addDep g a b = some g') :
    NoDupKeys g' := by
  rcases addDep_some hd with ⟨_, rfl⟩ | rfl
  · exact h
  · exact noDupKeys_insertEdge h a b

/-! ### order-independence of the verdict over a whole edge sequence -/

/-- reachability in the edge *set* of an attempt sequence -/
inductive ReachE (E : List (Nat × Nat)) : Nat → Nat → Prop
  | refl (a : Nat) : ReachE E a a
  | step {a b c : Nat} : (a, b) ∈ E → ReachE E b c → ReachE E a c

def EAcyclic (E : List (Nat × Nat)) : Prop := ∀ a b, (a, b) ∈ E → ¬ ReachE E b a

theorem ReachE.mono {E E' : List (Nat × Nat)} (h : ∀ e, e ∈ E → e ∈ E') {a b : Nat}
    (hr : ReachE E a b) : ReachE E' a b := by
  induction hr with
  | refl _ => exact ReachE.refl _
  | step e _ ih => exact ReachE.step (h _ e) ih

theorem EAcyclic.mono {E E' : List (Nat × Nat)} (h : ∀ e, e ∈ E' → e ∈ E) (hE : EAcyclic E) : EAcyclic E' :=
  fun a b hab hr => hE a b (h _ hab) (hr.mono h)

theorem EAcyclic.congr {E E' : List (Nat × Nat)} (h : ∀ e, e ∈ E ↔ e ∈ E') :
    EAcyclic E ↔ EAcyclic E' :=
  ⟨EAcyclic.mono fun e => (h e).2, EAcyclic.mono fun e => (h e).1⟩

/-- `S`: the part of the graph whose edges are known to be in `E` (everything here, `Reach p entry` for the
    scheduler) -/
theorem reachE_of_reach {g : Graph} {E : List (Nat × Nat)} {S : Nat → Prop}
    (hs : ∀ a b, S a → Edge g a b → S b ∧ (a, b) ∈ E) {a b : Nat} (h : Reach g a b) (ha : S a) :
    ReachE E a b := by
  induction h with
  | refl _ => exact ReachE.refl _
  | step e _ ih => exact ReachE.step (hs _ _ ha e).2 (ih (hs _ _ ha e).1)

theorem reach_of_reachE {g : Graph} {E : List (Nat × Nat)} (hs : ∀ a b, (a, b) ∈ E → Edge g a b)
    {a b : Nat} (h : ReachE E a b) : Reach g a b := by
  induction h with
  | refl _ => exact Reach.refl _
  | step e _ ih => exact Reach.step (hs _ _ e) ih

theorem addAll_nil (g : Graph) : addAll g [] = (g, []) := rfl

theorem addAll_cons_none {g : Graph} {a b : Nat} (es : List (Nat × Nat)) (h : addDep g a b = none) :
    addAll g ((a, b) :: es) = ((addAll g es).1, false :: (addAll g es).2) := by
  simp [addAll, h]

theorem addAll_cons_some {g g1 : Graph} {a b : Nat} (es : List (Nat × Nat)) (h : addDep g a b = some g1) :
    addAll g ((a, b) :: es) = ((addAll g1 es).1, true :: (addAll g1 es).2) := by
  simp [addAll, h]

theorem addAll_append (g : Graph) (es1 es2 : List (Nat × Nat)) :
    addAll g (es1 ++ es2) =
      ((addAll (addAll g es1).1 es2).1, (addAll g es1).2 ++ (addAll (addAll g es1).1 es2).2) := by
  fun_induction addAll g es1 <;> simp [*, addAll]

theorem addAll_length (g : Graph) (es : List (Nat × Nat)) : (addAll g es).2.length = es.length := by
  fun_induction addAll g es <;> simp_all

theorem addAll_preserves {P : Graph → Prop} (hP : ∀ g g' a b, P g → addDep g a b = some g' → P g')
    (es : List (Nat × Nat)) (g : Graph) (h : P g) : P (addAll g es).1 := by
  fun_induction addAll g es with
  | case1 => exact h
  | case2 _ _ _ _ _ _ _ heq ih => rw [heq] at ih; exact ih h
  | case3 _ _ _ _ _ hd _ _ heq ih => rw [heq] at ih; exact ih (hP _ _ _ _ h hd)

/-- general form, from any acyclic `g`: `E` is the edges of `g` and the attempts `es` together -/
theorem addAll_all_iff_from {E : List (Nat × Nat)} (es : List (Nat × Nat)) (g : Graph) (hac : Acyclic g)
    (hE : ∀ a b, (a, b) ∈ E ↔ Edge g a b ∨ (a, b) ∈ es) : (addAll g es).2.all id = true ↔ EAcyclic E := by
  fun_induction addAll g es with
  | case1 g =>
    simp only [List.not_mem_nil, or_false] at hE
    refine ⟨fun _ a b hab hr => ?_, fun _ => rfl⟩
    exact hac a b ((hE a b).1 hab) (reach_of_reachE (fun a b h => (hE a b).1 h) hr)
  | case2 g a b es h g' vs heq ih =>
    refine ⟨fun hall => by simp at hall, fun hacE => ?_⟩
    have hr := reachE_of_reach (S := fun _ => True) (fun x y _ e => ⟨trivial, (hE x y).2 (Or.inl e)⟩)
      ((addDep_none_iff g a b).1 h) trivial
    exact (hacE a b ((hE a b).2 (Or.inr List.mem_cons_self)) hr).elim
  | case3 g a b es g1 h g' vs heq ih =>
    rw [heq] at ih
    rw [List.all_cons, id, Bool.true_and]
    apply ih (acyclic_invariant hac h)
    intro x y
    rw [hE, edge_addDep h, List.mem_cons, Prod.mk.injEq]
    exact or_assoc.symm

/-- the verdict of a whole attempt sequence depends only on its edge set -/
theorem addAll_all_iff (E : List (Nat × Nat)) : (addAll [] E).2.all id = true ↔ EAcyclic E :=
  addAll_all_iff_from E [] acyclic_nil fun a b => by simp [Edge, succs]

theorem contains_false_iff (l : List Bool) : l.contains false = true ↔ ¬ (l.all id = true) := by
  simp

/-- a DAG is never reported, whatever the order (and repetitions) of the attempts -/
theorem dag_never_reported (E : List (Nat × Nat)) (hE : EAcyclic E) :
    (addAll [] E).2.all id = true :=
  (addAll_all_iff E).2 hE

/-- if the edge set contains a cycle, at least one attempt is rejected, whatever the order -/
theorem cycle_always_reported (E : List (Nat × Nat))
    (hc : ∃ a b, (a, b) ∈ E ∧ ReachE E b a) : (addAll [] E).2.contains false = true := by
  rw [contains_false_iff, addAll_all_iff]
  intro hE
  obtain ⟨a, b, hab, hr⟩ := hc
  exact hE a b hab hr

/-- the verdict is invariant under any reordering / duplication of the attempts -/
theorem verdict_order_independent (E E' : List (Nat × Nat)) (h : ∀ e, e ∈ E ↔ e ∈ E') :
    (addAll [] E).2.contains false = (addAll [] E').2.contains false := by
  rw [Bool.eq_iff_iff, contains_false_iff, contains_false_iff, addAll_all_iff, addAll_all_iff, EAcyclic.congr h]

/-! ### concrete instances: a diamond and a 3-cycle

`dfs` and its inner loop are one well-founded recursion, which `decide` does not unfold: what runs `hasPath` is
evaluated by `simp` with the equations of the definitions. -/

def diamondE : List (Nat × Nat) := [(1, 2), (1, 3), (2, 4), (3, 4)]
def cycle3E : List (Nat × Nat) := [(1, 2), (2, 3), (3, 1)]

theorem addAll_diamondE :
    addAll [] diamondE = ([(1, [2, 3]), (2, [4]), (3, [4])], [true, true, true, true]) := by
  simp [diamondE, addAll, addDep, insertEdge, hasPath, dfs, dfs.loop, succs, nodes, List.eraseDups_cons]

example : addAll [] diamondE = ([(1, [2, 3]), (2, [4]), (3, [4])], [true, true, true, true]) :=
  addAll_diamondE

example : addAll [] cycle3E = ([(1, [2]), (2, [3])], [true, true, false]) := by
  simp [cycle3E, addAll, addDep, insertEdge, hasPath, dfs, dfs.loop, succs, nodes, List.eraseDups_cons]

/-- the other rotation of the same cycle is also reported (at a different attempt) -/
example : (addAll [] [(3, 1), (1, 2), (2, 3)]).2 = [true, true, false] := by
  simp [addAll, addDep, insertEdge, hasPath, dfs, dfs.loop, succs, nodes, List.eraseDups_cons]

example : hasPath [(1, [2, 3]), (2, [4]), (3, [4])] 1 4 = true :=
  dfs_complete (Reach.step (b := 2) (by decide) (Reach.single (by decide)))

example : hasPath [(1, [2, 3]), (2, [4]), (3, [4])] 4 1 = false := by
  rw [Bool.eq_false_iff, Ne, dfs_correct]
  intro h
  cases h with
  | step e _ => simp [Edge, succs] at e

/-- the hypothesis of `dag_never_reported` is satisfiable -/
example : EAcyclic diamondE :=
  (addAll_all_iff diamondE).1 (by rw [addAll_diamondE]; rfl)

/-- the hypothesis of `cycle_always_reported` is satisfiable -/
example : ∃ a b, (a, b) ∈ cycle3E ∧ ReachE cycle3E b a :=
  ⟨1, 2, by decide, ReachE.step (b := 3) (by decide) (ReachE.step (b := 1) (by decide) (ReachE.refl 1))⟩

example : Acyclic [(1, [2, 3]), (2, [4]), (3, [4])] := by
  have := addAll_preserves (fun _ _ _ _ hac => acyclic_invariant hac) diamondE [] acyclic_nil
  rwa [addAll_diamondE] at this

end FerretVerif.DepGraph
