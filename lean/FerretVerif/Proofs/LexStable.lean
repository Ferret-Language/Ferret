/-
  Maximal-munch stability of the scanners of Model/Lexer.lean (C19): what `step` does at the front of a text does not
  change when, behind the bytes it consumes, white-space-led material is inserted.  The number, identifier and
  line-comment scanners have this (`Local`) by their shape: the constructions of Proofs/LexScan.lean preserve it.
  From one step to a whole text: `weave` re-emits a text with `SepTrivia` put in front of the chunks that `isSig` marks;
  the result is an `Ins` of the text (`weave_ins`), so under `cleanRun` every chunk is lexed as in the text (`sigs_chunk`, by
  `step_kept` and `sigs_unfold`) and the significant tokens are those of the text (`weave_sigs`).
-/
import FerretVerif.Proofs.LexTrivia

namespace FerretVerif.Lexer

/-- `W` is `rest` with something inserted: the two agree byte by byte up to the first insertion, which begins with a
    white-space byte and stands in front of a byte of `rest` that is not white space; nothing is assumed after it -/
inductive Ins : List Byte → List Byte → Prop
  | nil : Ins [] []
  | ins (c w : Byte) (r W : List Byte) : isSpace c = false → isSpace w = true → Ins (c :: r) (w :: W)
  | keep (c : Byte) (r W : List Byte) : Ins r W → Ins (c :: r) (c :: W)

theorem Ins.refl : ∀ s : List Byte, Ins s s
  | [] => .nil
  | c :: r => .keep c r r (Ins.refl r)

theorem Ins.append_left (a : List Byte) {r W : List Byte} (h : Ins r W) : Ins (a ++ r) (a ++ W) := by
  induction a with
  | nil => exact h
  | cons c a ih => exact .keep c _ _ ih

/-- `s'` keeps the first `n` bytes of `s` and is an `Ins` of the rest -/
def Kept (n : Nat) (s s' : List Byte) : Prop := ∃ W, s' = s.take n ++ W ∧ Ins (s.drop n) W

theorem Kept.ins {n : Nat} {s s' : List Byte} (h : Kept n s s') : Ins s s' := by
  obtain ⟨W, rfl, hW⟩ := h
  have := Ins.append_left (s.take n) hW
  rwa [List.take_append_drop] at this

theorem Kept.of_ins {s s' : List Byte} (h : Ins s s') : Kept 0 s s' := ⟨s', by simp, by simpa using h⟩

theorem Kept.nil {n : Nat} {s' : List Byte} (h : Kept n [] s') : s' = [] := by cases h.ins; rfl

theorem Kept.succ_cons {n : Nat} {c : Byte} {r s' : List Byte} (h : Kept (n + 1) (c :: r) s') : ∃ r', s' = c :: r' ∧ Kept n r r' := by
  obtain ⟨W, rfl, hW⟩ := h
  exact ⟨r.take n ++ W, by simp, W, rfl, by simpa using hW⟩

theorem Kept.drop {a b : Nat} {s s' : List Byte} (h : Kept (a + b) s s') : Kept b (s.drop a) (s'.drop a) := by
  induction a generalizing s s' with
  | zero => rwa [Nat.zero_add] at h
  | succ a ih =>
    rw [Nat.add_right_comm] at h
    cases s with
    | nil => rw [h.nil]; exact ⟨[], by simp, by simpa using Ins.nil⟩
    | cons c r => obtain ⟨r', rfl, hk⟩ := h.succ_cons; exact ih hk

theorem Kept.take {n : Nat} {s s' : List Byte} (h : Kept n s s') : s'.take n = s.take n := by
  induction n generalizing s s' with
  | zero => rfl
  | succ n ih =>
    cases s with
    | nil => rw [h.nil]
    | cons c r => obtain ⟨r', rfl, hk⟩ := h.succ_cons; rw [List.take_succ_cons, List.take_succ_cons, ih hk]

theorem take_of_take_le {m n : Nat} (hm : m ≤ n) {a b : List Byte} (h : a.take n = b.take n) : a.take m = b.take m := by
  have := congrArg (List.take m) h
  rwa [List.take_take, List.take_take, Nat.min_eq_left hm] at this

theorem Kept.mono {n m : Nat} {s s' : List Byte} (h : Kept n s s') (hm : m ≤ n) : Kept m s s' :=
  ⟨s'.drop m, by rw [← take_of_take_le hm h.take, List.take_append_drop],
    (Kept.drop (b := n - m) (by rwa [Nat.add_sub_cancel' hm])).ins⟩

theorem Kept.of_det {f : List Byte → Option Nat} {n : Nat} {s s' : List Byte} (hk : Kept n s s')
    (h : ∀ X, f (s.take n ++ X) = some n) : f s' = some n := by
  obtain ⟨W, rfl, _⟩ := hk
  exact h W

/-- heads: a kept text has the same head -/
theorem Ins.head_space {s s' : List Byte} (h : Ins s s') : s.head?.map isSpace = some true → s'.head? = s.head? := by
  intro hs
  cases h with
  | nil => rfl
  | ins c w r W hc hw => simp [hc] at hs
  | keep c r W _ => rfl

def noSpace (lit : List Byte) : Prop := ∀ b ∈ lit, isSpace b = false

/-- the first insertion begins with white space -/
theorem Ins.take_noSpace {s s' : List Byte} (h : Ins s s') (n : Nat) (hn : noSpace (s'.take n)) : s.take n = s'.take n := by
  induction n generalizing s s' with
  | zero => rfl
  | succ n ih =>
    cases h with
    | nil => rfl
    | ins c w r W _ hw => rw [hn w List.mem_cons_self] at hw; cases hw
    | keep c r W h => rw [List.take_succ_cons, List.take_succ_cons, ih h fun b hb => hn b (List.mem_cons_of_mem _ hb)]

/-- white space is five bytes -/
theorem forall_space {P : Byte → Prop} (h : P 9 ∧ P 10 ∧ P 12 ∧ P 13 ∧ P 32) (w : Byte) (hw : isSpace w = true) : P w := by
  obtain ⟨h1, h2, h3, h4, h5⟩ := h
  simp only [isSpace, Bool.or_eq_true, decide_eq_true_eq] at hw
  rcases hw with (((rfl | rfl) | rfl) | rfl) | rfl <;> assumption

/-! ### locality and the constructions that preserve it -/

/-- `f s` does not change when the byte behind the consumed ones, if it is no white space, is displaced by a white-space
    byte, whatever follows; where `f s = 0` (no match), `f` matches nothing after any insertion.  Pointwise in `s`: a
    loop (`spanLen_eq`: `g` is the loop itself) has it of `g` on the shorter texts only (`Local.of_shorter`). -/
def LocalAt (f : List Byte → Nat) (s : List Byte) : Prop := ∀ s', Kept (f s) s s' → f s' = f s

def Local (f : List Byte → Nat) : Prop := ∀ s, LocalAt f s

def RejectsSpace (q : Byte → Bool) : Prop := ∀ w, isSpace w = true → q w = false

/-- What `lead` needs: an inserted white-space byte `w` is rejected wherever the byte `c` it displaces was.  Holds of a
    class without white space, and of one that rejects nothing but white space, such as the `[^\n\r]` of line comments. -/
def StopsAtInserted (q : Byte → Bool) : Prop := ∀ c w, isSpace c = false → isSpace w = true → q c = false → q w = false

theorem StopsAtInserted.of_rejects {q : Byte → Bool} (h : RejectsSpace q) : StopsAtInserted q := fun _ w _ hw _ => h w hw

theorem LocalAt.lead {q : Byte → Bool} {g : List Byte → Nat} {s : List Byte} (hq : StopsAtInserted q)
    (hg : ∀ r, r.length < s.length → LocalAt g r) : LocalAt (lead q g) s := by
  intro s'
  fun_cases Lexer.lead q g s with
  | case1 => intro h; rw [h.nil]; rfl
  | case2 c r hc =>
    intro h
    obtain ⟨r', rfl, hk⟩ := h.succ_cons
    rw [Lexer.lead, if_pos hc, hg r (Nat.lt_succ_self _) r' hk]
  | case3 c r hc =>
    intro h
    cases h.ins with
    | ins _ w _ W hcs hw => rw [Lexer.lead, hq c w hcs hw (Bool.eq_false_iff.mpr hc)]; rfl
    | keep _ _ W _ => rw [Lexer.lead, if_neg hc]

theorem LocalAt.lead1 {q : Byte → Bool} {g : List Byte → Nat} {s : List Byte} (hq : RejectsSpace q)
    (hg : ∀ r, r.length < s.length → LocalAt g r) : LocalAt (lead1 q g) s := by
  intro s'
  fun_cases Lexer.lead1 q g s with
  | case1 => intro h; rw [h.nil]; rfl
  | case2 c r hc =>
    intro h
    obtain ⟨r', rfl, hk⟩ := h.succ_cons
    rw [Lexer.lead1, hg r (Nat.lt_succ_self _) r' hk, if_pos hc]
  | case3 c r hc =>
    intro h
    cases h.ins with
    | ins _ w _ W _ hw => rw [Lexer.lead1, hq w hw]; rfl
    | keep _ _ W hW =>
      rw [Lexer.lead1]
      by_cases hc' : q c = true
      · have : g r = 0 := by simpa [hc'] using hc
        rw [hg r (Nat.lt_succ_self _) W (this ▸ .of_ins hW), this, hc']; rfl
      · rw [Bool.eq_false_iff.mpr hc']; rfl

theorem LocalAt.alt {f g : List Byte → Nat} {s : List Byte} (hf : LocalAt f s) (hg : LocalAt g s) : LocalAt (alt f g) s := by
  intro s' h
  unfold Lexer.alt at h ⊢
  by_cases h0 : f s = 0
  · rw [if_pos h0] at h ⊢
    rw [hf s' (by rw [h0]; exact h.mono (Nat.zero_le _)), if_pos h0, hg s' h]
  · rw [if_neg h0] at h ⊢
    rw [hf s' h, if_neg h0]

theorem LocalAt.seq {f g : List Byte → Nat} {s : List Byte} (hf : LocalAt f s) (hg : LocalAt g (s.drop (f s))) :
    LocalAt (seq f g) s := by
  intro s' h
  unfold Lexer.seq at h ⊢
  by_cases h0 : f s = 0
  · rw [if_pos h0] at h ⊢
    rw [hf s' (by rwa [h0]), if_pos h0]
  · rw [if_neg h0] at h ⊢
    rw [hf s' (h.mono (Nat.le_add_right _ _)), if_neg h0, hg _ h.drop]

theorem Local.lead {q : Byte → Bool} {g : List Byte → Nat} (hq : StopsAtInserted q) (hg : Local g) : Local (lead q g) :=
  fun _ => .lead hq fun r _ => hg r

theorem Local.lead1 {q : Byte → Bool} {g : List Byte → Nat} (hq : RejectsSpace q) (hg : Local g) :
    Local (lead1 q g) := fun _ => .lead1 hq fun r _ => hg r

theorem Local.alt {f g : List Byte → Nat} (hf : Local f) (hg : Local g) : Local (alt f g) := fun s => (hf s).alt (hg s)

theorem Local.seq {f g : List Byte → Nat} (hf : Local f) (hg : Local g) : Local (seq f g) := fun s => (hf s).seq (hg _)

/-- for the scanners that are loops -/
theorem Local.of_shorter {f : List Byte → Nat} (h : ∀ s, (∀ r, r.length < s.length → LocalAt f r) → LocalAt f s) : Local f := by
  intro s
  induction hn : s.length using Nat.strongRecOn generalizing s with
  | _ n ih => exact h s fun r hr => ih _ (hn ▸ hr) r rfl

/-! ### scanners whose result is not a length -/

/-- `len` reads off the result how many bytes were consumed (0 where it does not match); `Local f` is `StableBy id f` -/
def StableBy {α : Type} (len : α → Nat) (f : List Byte → α) : Prop := ∀ s s', Kept (len (f s)) s s' → f s' = f s

/-- with `v := none` (length 0, and `Kept 0` is `Ins`): a scanner that fails keeps failing -/
theorem StableBy.of_eq {α : Type} {len : α → Nat} {f : List Byte → α} (hf : StableBy len f) {s s' : List Byte} {v : α}
    (h : f s = v) (hk : Kept (len v) s s') : f s' = v := h ▸ hf s s' (h ▸ hk)

theorem StableBy.of_local {f : List Byte → Option Nat} {g : List Byte → Nat} (hfg : ∀ s, f s = nz (g s)) (hg : Local g) :
    StableBy (·.getD 0) f := by
  intro s s' hk
  rw [hfg s] at hk ⊢
  rw [hfg s', hg s s' (by rwa [← nz_getD (g s)])]

/-! ### the scanners that are local by their shape

`x_local` is `Local x`; `x_stable` is `StableBy len x`; `x_kept` is either of them with `Local`, `StableBy`, `RejectsSpace`
unfolded, the form DESIGN.md names (`scanByte_kept` and `step_kept` have that form and proofs of their own). -/

theorem spanLen_local {p : Byte → Bool} (hp : StopsAtInserted p) : Local (spanLen p) :=
  .of_shorter fun s ih => by
    rw [spanLen_eq]; exact .lead hp ih

theorem spanLen_kept (p : Byte → Bool) (hp : ∀ w, isSpace w = true → p w = false) :
    ∀ (s s' : List Byte), Kept (spanLen p s) s s' → spanLen p s' = spanLen p s :=
  spanLen_local (.of_rejects hp)

theorem digitsTail_local {p : Byte → Bool} (hp : RejectsSpace p) : Local (digitsTail p) :=
  .of_shorter fun s ih => by
    rw [digitsTail_eq]
    exact .alt (.lead (.of_rejects hp) ih)
      (.lead1 (forall_space (by decide)) fun r hr => .lead (.of_rejects hp) fun r' hr' => ih r' (Nat.lt_trans hr' hr))

theorem digitsTail_kept (p : Byte → Bool) (hp : ∀ w, isSpace w = true → p w = false) :
    ∀ (s s' : List Byte), Kept (digitsTail p s) s s' → digitsTail p s' = digitsTail p s :=
  digitsTail_local hp

theorem digitsRun_local {p : Byte → Bool} (hp : RejectsSpace p) : Local (digitsRun p) :=
  digitsRun_eq p ▸ (digitsTail_local hp).lead (.of_rejects hp)

theorem isDigit_rejectsSpace : RejectsSpace isDigit := forall_space (by decide)

theorem fracLen_local : Local fracLen :=
  fracLen_eq ▸ (digitsRun_local isDigit_rejectsSpace).lead1 (forall_space (by decide))

theorem fracLen_kept : ∀ (s s' : List Byte), Kept (fracLen s) s s' → fracLen s' = fracLen s := fracLen_local

theorem expLen_local : Local expLen :=
  expLen_eq ▸ (((digitsRun_local isDigit_rejectsSpace).lead1 (forall_space (by decide))).alt
    (digitsRun_local isDigit_rejectsSpace)).lead1 (forall_space (by decide))

theorem expLen_kept : ∀ (s s' : List Byte), Kept (expLen s) s s' → expLen s' = expLen s := expLen_local

theorem prefixedLen_local {m1 m2 : Byte} {p : Byte → Bool} (hp : RejectsSpace p)
    (hm : RejectsSpace fun w => w = m1 || w = m2) : Local (prefixedLen m1 m2 p) :=
  ((digitsRun_local hp).lead1 hm).lead1 (forall_space (by decide))

theorem unsignedLen_local : Local unsignedLen :=
  (prefixedLen_local (forall_space (by decide)) (forall_space (by decide))).alt
    ((prefixedLen_local (forall_space (by decide)) (forall_space (by decide))).alt
      ((prefixedLen_local (forall_space (by decide)) (forall_space (by decide))).alt
        (((digitsRun_local isDigit_rejectsSpace).seq fracLen_local).seq expLen_local)))

theorem numberLen_local : Local numberLen := (unsignedLen_local.lead1 (forall_space (by decide))).alt unsignedLen_local

theorem identLen_local : Local identLen :=
  (spanLen_local (.of_rejects (forall_space (by decide)))).lead (.of_rejects (forall_space (by decide)))

/-- the span of a line comment stops at `\n` or `\r` only, and those are white space -/
theorem lineLen_local : Local lineLen := by
  have hp : StopsAtInserted fun c => !(c = 10 || c = 13) := by
    intro c w hc _ h
    simp only [Bool.not_eq_eq_eq_not, Bool.not_false, Bool.or_eq_true, decide_eq_true_eq] at h
    rcases h with rfl | rfl <;> cases hc
  exact ((spanLen_local hp).lead (.of_rejects (forall_space (by decide)))).lead1 (forall_space (by decide))

theorem scanNumber_stable : StableBy (·.getD 0) scanNumber := .of_local scanNumber_eq numberLen_local
theorem scanIdent_stable : StableBy (·.getD 0) scanIdent := .of_local scanIdent_eq identLen_local
theorem scanLineComment_stable : StableBy (·.getD 0) scanLineComment := .of_local scanLineComment_eq lineLen_local

theorem scanNumber_kept (s s' : List Byte) (n : Nat) (h : scanNumber s = some n) (hk : Kept n s s') : scanNumber s' = some n :=
  scanNumber_stable.of_eq h hk

/-! ### literal prefixes (the opener of a block comment, operators) -/

theorem isPrefixOf_stable {lit : List Byte} (hl : noSpace lit) :
    StableBy (fun b => bif b then lit.length else 0) (isPrefixOf lit) := by
  intro s s' hk
  cases hp : isPrefixOf lit s with
  | true => rw [hp] at hk; exact isPrefixOf_iff.mpr (hk.take.trans (isPrefixOf_iff.mp hp))
  | false =>
    refine Bool.eq_false_iff.mpr fun hp' => Bool.false_ne_true (hp ▸ isPrefixOf_iff.mpr ?_)
    have e := isPrefixOf_iff.mp hp'
    exact (hk.ins.take_noSpace _ (e.symm ▸ hl)).trans e

theorem scanOp_stable {ops : List (List Byte × List Byte)} (hT : ∀ p ∈ ops, p.1 = p.2 ∧ p.1 ≠ []) (hS : ∀ p ∈ ops, noSpace p.1) :
    StableBy (·.elim 0 List.length) (scanOp ops) := by
  intro s s' hk
  fun_induction scanOp ops s with
  | case1 => rfl
  | case2 lit t ops s hp =>
    obtain rfl : lit = t := (hT _ List.mem_cons_self).1
    rw [scanOp, if_pos ((isPrefixOf_stable (hS _ List.mem_cons_self)).of_eq hp hk)]
  | case3 lit t ops s hp ih =>
    have := (isPrefixOf_stable (hS _ List.mem_cons_self)).of_eq (Bool.eq_false_iff.mpr hp) (.of_ins hk.ins)
    rw [scanOp, if_neg (Bool.eq_false_iff.mp this)]
    exact ih (fun q hq => hT q (List.mem_cons_of_mem _ hq)) (fun q hq => hS q (List.mem_cons_of_mem _ hq)) hk

theorem scanOp_kept (ops : List (List Byte × List Byte)) (hT : ∀ p ∈ ops, p.1 = p.2 ∧ p.1 ≠ []) (hS : ∀ p ∈ ops, noSpace p.1)
    (s s' tok : List Byte) (h : scanOp ops s = some tok) (hk : Kept tok.length s s') : scanOp ops s' = some tok :=
  (scanOp_stable hT hS).of_eq h hk

/-! ### strings, byte literals, block comments -/

theorem scanBlockComment_none_of_prefix (s : List Byte) (h : isPrefixOf [47, 42] s = false) : scanBlockComment s = none := by
  unfold scanBlockComment
  split
  · simp [isPrefixOf] at h
  · rfl

theorem scanString_none_of_head (c : Byte) (r : List Byte) (h : c ≠ 34) : scanString (c :: r) = none := by
  unfold scanString; split
  · rename_i heq; cases heq; exact absurd rfl h
  · rfl

theorem scanByte_none_of_head (c : Byte) (r : List Byte) (h : c ≠ 39) : scanByte (c :: r) = none := by
  unfold scanByte; split
  · rename_i heq; cases heq; exact absurd rfl h
  · rfl

/-- The earlier alternatives keep failing: the closing quote is no hex digit and not `x`, and behind `'\'` a closing quote
    can neither be inserted nor have been there before. -/
theorem scanByte_kept (s s' : List Byte) (n : Nat) (h : scanByte s = some n) (hk : Kept n s s') : scanByte s' = some n := by
  obtain ⟨W, rfl, hW⟩ := hk
  revert h
  fun_cases scanByte s with
  | case1 rest a1 =>
    obtain ⟨h1, h2, X, rfl, hh⟩ := byteAlt1_shape rest a1
    rintro ⟨⟩
    simp [scanByte, byteAlt1, hh]
  | case2 rest _ a2 =>
    obtain ⟨c, X, rfl, hc⟩ := byteAlt2_shape rest a2
    rintro ⟨⟩
    have b1 : byteAlt1 (92 :: c :: 39 :: W) = false := Bool.eq_false_iff.mpr fun hb => by
      obtain ⟨_, _, _, e, hh⟩ := byteAlt1_shape _ hb
      simp only [List.cons.injEq] at e
      obtain ⟨-, -, rfl, -⟩ := e
      simp [isHex, isDigit] at hh
    simp [scanByte, b1, byteAlt2, hc]
  | case3 rest _ a2 a3 =>
    obtain ⟨c, X, rfl, hc⟩ := byteAlt3_shape rest a3
    rintro ⟨⟩
    have hW' : Ins X W := by simpa using hW
    have b1 : byteAlt1 (c :: 39 :: W) = false := Bool.eq_false_iff.mpr fun hb => by
      obtain ⟨_, _, _, e, _⟩ := byteAlt1_shape _ hb
      simp at e
    have b2 : byteAlt2 (c :: 39 :: W) = false := Bool.eq_false_iff.mpr fun hb => by
      obtain ⟨d, Y, e, _⟩ := byteAlt2_shape _ hb
      simp only [List.cons.injEq] at e
      obtain ⟨rfl, rfl, rfl⟩ := e
      cases hW' with
      | ins x w r0 W0 _ hw => exact absurd hw (by decide)
      | keep x r0 W0 _ => exact a2 rfl
    simp [scanByte, b1, b2, byteAlt3, hc]
  | case4 => exact nofun
  | case5 => exact nofun

/-! ### one step -/

/-- an opener of a string, byte literal or block comment that is not closed: white space and comments inserted behind it
    could close it -/
def openUnclosed (s : List Byte) : Bool :=
  (s.head? == some 34 && (scanString s).isNone) || (s.head? == some 39 && (scanByte s).isNone) ||
  (isPrefixOf [47, 42] s && (scanBlockComment s).isNone)

def opsNoSpace (T : Tables) : Prop := ∀ p ∈ T.ops, noSpace p.1

instance (T : Tables) : Decidable (opsNoSpace T) := by unfold opsNoSpace noSpace; infer_instance

/-- The pattern that fires matches again (`hk`), and the patterns before it keep failing because the first byte is kept
    (for strings, byte literals and block comments: because there is no opener). -/
theorem step_kept (T : Tables) (hT : TablesOk T) (hS : opsNoSpace T) (c : Byte) (r s' : List Byte)
    (hws : scanWs (c :: r) = none) (hclean : openUnclosed (c :: r) = false)
    (hk : Kept (step T (c :: r)).n (c :: r) s') : step T s' = step T (c :: r) := by
  have hk1 : Kept 1 (c :: r) s' := hk.mono (step_bounds hT (List.cons_ne_nil c r)).1
  obtain ⟨r', rfl, _⟩ := hk1.succ_cons
  have hi := hk1.ins
  simp only [openUnclosed, List.head?_cons, Bool.or_eq_false_iff, Bool.and_eq_false_iff] at hclean
  obtain ⟨⟨hcs, hcb⟩, hcc⟩ := hclean
  have f1 : scanWs (c :: r') = none := (scanWs_eq_none_iff c r').mpr ((scanWs_eq_none_iff c r).mp hws)
  have f2 := fun h => scanLineComment_stable.of_eq (v := none) h (.of_ins hi)
  have f3 : scanBlockComment (c :: r) = none → scanBlockComment (c :: r') = none := fun h => by
    have hpre : isPrefixOf [47, 42] (c :: r) = false := hcc.resolve_right (by simp [h])
    exact scanBlockComment_none_of_prefix _ ((isPrefixOf_stable (by unfold noSpace; decide)).of_eq hpre (.of_ins hi))
  have f4 : scanString (c :: r) = none → scanString (c :: r') = none := fun h =>
    scanString_none_of_head c r' (by simpa using hcs.resolve_right (by simp [h]))
  have f5 : scanByte (c :: r) = none → scanByte (c :: r') = none := fun h =>
    scanByte_none_of_head c r' (by simpa using hcb.resolve_right (by simp [h]))
  have f6 := fun h => scanNumber_stable.of_eq (v := none) h (.of_ins hi)
  have f7 := fun h => scanIdent_stable.of_eq (v := none) h (.of_ins hi)
  revert hk
  fun_cases step T (c :: r) with
  | case1 n h => rw [hws] at h; cases h
  | case2 _ n h =>
    intro hk
    simp only [step, f1, scanLineComment_stable.of_eq h hk, Kept.take (n := n) hk]
  | case3 _ h2 n h =>
    intro hk
    simp only [step, f1, f2 h2, hk.of_det (scanBlockComment_spec h).2, Kept.take (n := n) hk]
  | case4 _ h2 h3 n h =>
    intro hk
    simp only [step, f1, f2 h2, f3 h3, hk.of_det (scanString_spec h).2, take_of_take_le (Nat.sub_le n 1) (Kept.take hk)]
  | case5 _ h2 h3 h4 n h v e hv =>
    intro hk
    simp only [step, f1, f2 h2, f3 h3, f4 h4, scanByte_kept _ _ n h hk, take_of_take_le (Nat.sub_le n 1) (Kept.take hk), hv]
  | case6 _ h2 h3 h4 h5 n h =>
    intro hk
    simp only [step, f1, f2 h2, f3 h3, f4 h4, f5 h5, scanNumber_stable.of_eq h hk, Kept.take (n := n) hk]
  | case7 _ h2 h3 h4 h5 h6 n h =>
    intro hk
    simp only [step, f1, f2 h2, f3 h3, f4 h4, f5 h5, f6 h6, scanIdent_stable.of_eq h hk, Kept.take (n := n) hk]
    rfl
  | case8 _ h2 h3 h4 h5 h6 h7 op h =>
    intro hk
    simp only [step, f1, f2 h2, f3 h3, f4 h4, f5 h5, f6 h6, f7 h7, (scanOp_stable hT hS).of_eq h hk]
  | case9 _ h2 h3 h4 h5 h6 h7 h =>
    intro _
    simp only [step, f1, f2 h2, f3 h3, f4 h4, f5 h5, f6 h6, f7 h7, (scanOp_stable hT hS).of_eq h (.of_ins hi)]

/-! ### weaving trivia into a text -/

/-- trivia that may be put in front of a token: empty, or starting with a white-space byte -/
def SepTrivia (t : List Byte) : Prop := t = [] ∨ ∃ w r, t = w :: r ∧ isSpace w = true ∧ Trivia t

theorem SepTrivia.trivia {t : List Byte} (h : SepTrivia t) : Trivia t := by
  rcases h with rfl | ⟨_, _, _, _, ht⟩
  · exact .nil
  · exact ht

def isSig (T : Tables) (s : List Byte) : Bool :=
  match (step T s).tok with
  | some (k, _) => k != .comment
  | none => (step T s).err

/-- re-runs the lexer on `s` and re-emits its chunks, putting `tv off` in front of every chunk that yields a
    significant token or a lexer error (`off` = byte offset of the chunk in `s`) -/
def weave (T : Tables) (tv : Nat → List Byte) : Nat → Nat → List Byte → List Byte
  | 0, _, s => s
  | _, _, [] => []
  | fuel + 1, off, s@(_ :: _) =>
    (if isSig T s then tv off else []) ++ s.take (step T s).n ++ weave T tv fuel (off + (step T s).n) (s.drop (step T s).n)

/-- no unterminated string / byte-literal / block-comment opener at any chunk start -/
def cleanRun (T : Tables) : Nat → List Byte → Bool
  | 0, _ => true
  | _, [] => true
  | fuel + 1, s@(_ :: _) => !openUnclosed s && cleanRun T fuel (s.drop (step T s).n)

theorem isSig_of_space (T : Tables) (c : Byte) (r : List Byte) (hc : isSpace c = true) : isSig T (c :: r) = false := by
  unfold isSig
  rw [step_of_ws T (scanWs_cons c r ▸ if_pos hc)]

theorem weave_ins (T : Tables) (tv : Nat → List Byte) (htv : ∀ i, SepTrivia (tv i)) :
    ∀ (fuel off : Nat) (s : List Byte), Ins s (weave T tv fuel off s) := by
  intro fuel off s
  fun_induction weave T tv fuel off s with
  | case1 off s => exact Ins.refl s
  | case2 => exact Ins.nil
  | case3 fuel off c r ih =>
    have hbody := Ins.append_left ((c :: r).take (step T (c :: r)).n) ih
    rw [List.take_append_drop] at hbody
    rw [List.append_assoc]
    split
    · rename_i hsig
      rcases htv off with he | ⟨w, t, he, hw, _⟩
      · rw [he, List.nil_append]; exact hbody
      · rw [he]
        -- a chunk in front of which trivia is put is no white-space chunk, so its first byte is no white space
        have hc : isSpace c = false :=
          Bool.eq_false_iff.mpr fun h => by rw [isSig_of_space T c r h] at hsig; cases hsig
        exact .ins c w r _ hc hw
    · rw [List.nil_append]; exact hbody

theorem sigs_take_span {T : Tables} (hT : TablesOk T) (x y : List Byte) : sigs T (x.take (spanLen isSpace x) ++ y) = sigs T y := by
  fun_induction spanLen isSpace x with
  | case1 => rfl
  | case2 c cs hc ih => rw [List.take_succ_cons, List.cons_append, sigs_ws_cons hT c _ hc, ih]
  | case3 => rfl

/-- a white-space chunk is skipped on both sides; any other chunk is lexed the same way in front of `W` (`step_kept`) -/
theorem sigs_chunk {T : Tables} (hT : TablesOk T) (hS : opsNoSpace T) (c : Byte) (r W : List Byte)
    (hopen : openUnclosed (c :: r) = false) (hins : Ins ((c :: r).drop (step T (c :: r)).n) W)
    (hW : sigs T W = sigs T ((c :: r).drop (step T (c :: r)).n)) :
    sigs T ((c :: r).take (step T (c :: r)).n ++ W) = sigs T (c :: r) := by
  cases hws : scanWs (c :: r) with
  | some n =>
    obtain ⟨rfl, _⟩ := nz_eq_some.mp ((scanWs_eq (c :: r)).symm.trans hws)
    rw [step_of_ws T hws] at hW ⊢
    rw [sigs_ws hT hws, ← hW]
    exact sigs_take_span hT _ W
  | none =>
    have hb := step_bounds hT (List.cons_ne_nil c r)
    have hk : Kept (step T (c :: r)).n (c :: r) (_ ++ W) := ⟨W, rfl, hins⟩
    have hstep := step_kept T hT hS c r _ hws hopen hk
    obtain ⟨r', e, _⟩ := (hk.mono hb.1).succ_cons
    rw [sigs_unfold hT c r, ← hW, e, sigs_unfold hT c r', ← e, sigStep, sigStep, hstep,
      List.drop_left' (List.length_take_of_le hb.2)]

/-- Any fuel will do: where it runs out `weave` returns the rest of the text as it is, and `cleanRun` asks nothing of it. -/
theorem weave_sigs_any_fuel {T : Tables} (hT : TablesOk T) (hS : opsNoSpace T) {tv : Nat → List Byte}
    (htv : ∀ i, SepTrivia (tv i)) (fuel off : Nat) (s : List Byte) (hcl : cleanRun T fuel s = true) :
    sigs T (weave T tv fuel off s) = sigs T s := by
  fun_induction weave T tv fuel off s with
  | case1 off s => rfl
  | case2 => rfl
  | case3 fuel off c r ih =>
    simp only [cleanRun, Bool.and_eq_true, Bool.not_eq_true'] at hcl
    have key := sigs_chunk hT hS c r _ hcl.1 (weave_ins T tv htv _ _ _) (ih hcl.2)
    rw [List.append_assoc]
    split
    · rw [leading_trivia_skipped hT (htv off).trivia]; exact key
    · exact key

/-- **Token-gap insertion is inert**: re-emitting a text with separator trivia put in front of any of its significant
    chunks leaves the significant tokens unchanged, provided no chunk starts with an unclosed opener.  `s.length ≤ fuel` is
    not used: `weave_sigs_any_fuel`. -/
theorem weave_sigs (T : Tables) (hT : TablesOk T) (hS : opsNoSpace T) (tv : Nat → List Byte) (htv : ∀ i, SepTrivia (tv i)) :
    ∀ (fuel off : Nat) (s : List Byte), s.length ≤ fuel → cleanRun T fuel s = true → sigs T (weave T tv fuel off s) = sigs T s :=
  fun fuel off s _ hcl => weave_sigs_any_fuel hT hS htv fuel off s hcl

end FerretVerif.Lexer
