/-
  sortDiagnostics is a stable sort by (file, line) on located diagnostics, hence its result
  does not depend on the order in which goroutines delivered diagnostics of DIFFERENT keys (C14).
-/
import FerretVerif.Model.Diag

namespace FerretVerif.Diag

/-- a diagnostic whose first label has a location -/
def located (d : D) : Bool := d.hasLabel && !d.nilLoc

/-- what the comparator looks at -/
def key (d : D) : Nat × Nat := (d.fileKey, d.line)

theorem less_iff {a b : D} (ha : located a = true) (hb : located b = true) :
    less a b = true ↔ (a.fileKey < b.fileKey ∨ (a.fileKey = b.fileKey ∧ a.line < b.line)) := by
  unfold located at ha hb
  simp only [Bool.and_eq_true, Bool.not_eq_true'] at ha hb
  unfold less
  simp only [ha.1, hb.1, ha.2, hb.2, Bool.not_true, Bool.or_self, Bool.false_eq_true, if_false]
  by_cases h1 : a.fileKey = b.fileKey
  · by_cases h2 : a.line = b.line <;> simp [h1, h2]
  · simp [h1]

theorem less_eq_false_iff {a b : D} (ha : located a = true) (hb : located b = true) :
    less a b = false ↔ (b.fileKey < a.fileKey ∨ (b.fileKey = a.fileKey ∧ b.line ≤ a.line)) := by
  rw [← Bool.not_eq_true, less_iff ha hb]; omega

theorem less_irrefl {a : D} (ha : located a = true) : less a a = false :=
  (less_eq_false_iff ha ha).2 (.inr ⟨rfl, Nat.le_refl _⟩)

theorem less_asymm {a b : D} (ha : located a = true) (hb : located b = true) (h : less a b = true) :
    less b a = false :=
  (less_eq_false_iff hb ha).2 (((less_iff ha hb).1 h).imp id fun ⟨e, l⟩ => ⟨e, Nat.le_of_lt l⟩)

theorem not_less_trans {a b c : D} (ha : located a = true) (hb : located b = true) (hc : located c = true)
    (h1 : less b a = false) (h2 : less c b = false) : less c a = false := by
  rw [less_eq_false_iff hb ha] at h1; rw [less_eq_false_iff hc hb] at h2; rw [less_eq_false_iff hc ha]
  rcases h1 with h1 | ⟨e1, l1⟩ <;> rcases h2 with h2 | ⟨e2, l2⟩
  · exact .inl (Nat.lt_trans h1 h2)
  · exact .inl (e2 ▸ h1)
  · exact .inl (e1 ▸ h2)
  · exact .inr ⟨e1.trans e2, Nat.le_trans l1 l2⟩

theorem key_eq_of_incomparable {a b : D} (ha : located a = true) (hb : located b = true)
    (h1 : less a b = false) (h2 : less b a = false) : key a = key b := by
  rw [less_eq_false_iff ha hb] at h1; rw [less_eq_false_iff hb ha] at h2
  rcases h1 with h1 | ⟨e1, l1⟩ <;> rcases h2 with h2 | ⟨e2, l2⟩
  · exact absurd h1 (Nat.lt_asymm h2)
  · exact absurd (e2 ▸ h1) (Nat.lt_irrefl _)
  · exact absurd (e1 ▸ h2) (Nat.lt_irrefl _)
  · unfold key; rw [e2, Nat.le_antisymm l2 l1]

theorem key_ne_of_less {a b : D} (ha : located a = true) (hb : located b = true) (h : less a b = true) : key a ≠ key b := by
  rw [less_iff ha hb] at h
  intro e
  injection e
  omega

/-! ### the sort only rearranges -/

theorem insertBack_perm (x : D) (acc : List D) : (insertBack x acc).Perm (x :: acc) := by
  fun_induction insertBack x acc with
  | case1 => exact .refl _
  | case2 y ys _ ih => exact (ih.cons y).trans (.swap x y ys)
  | case3 => exact .refl _

theorem mem_insertBack {d x : D} {acc : List D} : d ∈ insertBack x acc ↔ d = x ∨ d ∈ acc :=
  (insertBack_perm x acc).mem_iff.trans List.mem_cons

theorem isortRev_perm (acc l : List D) : (isortRev acc l).Perm (l ++ acc) := by
  fun_induction isortRev acc l with
  | case1 => exact .refl _
  | case2 acc x xs ih => exact ih.trans (((insertBack_perm x acc).append_left xs).trans List.perm_middle)

theorem sortDiags_perm (l : List D) : (sortDiags l).Perm l :=
  (List.reverse_perm _).trans ((isortRev_perm [] l).trans (.of_eq (List.append_nil l)))

theorem located_sortDiags (l : List D) (hl : ∀ d ∈ l, located d = true) : ∀ d ∈ sortDiags l, located d = true :=
  fun d hd => hl d ((sortDiags_perm l).mem_iff.1 hd)

/-! ### stability and order: one insertion, then the loop -/

-- the diagnostics of `l` with key `k`, in their order
def fk (k : Nat × Nat) (l : List D) : List D := l.filter (fun d => key d == k)

theorem fk_append (k : Nat × Nat) (a b : List D) : fk k (a ++ b) = fk k a ++ fk k b := List.filter_append ..

theorem fk_reverse (k : Nat × Nat) (l : List D) : fk k l.reverse = (fk k l).reverse := List.filter_reverse ..

theorem mem_fk {k : Nat × Nat} {d : D} {l : List D} : d ∈ fk k l ↔ d ∈ l ∧ key d = k := by
  rw [fk, List.mem_filter, beq_iff_eq]

theorem fk_cons_of_eq {k : Nat × Nat} {d : D} (h : key d = k) (l : List D) : fk k (d :: l) = d :: fk k l :=
  List.filter_cons_of_pos (beq_iff_eq.2 h)

theorem fk_cons_of_ne {k : Nat × Nat} {d : D} (h : key d ≠ k) (l : List D) : fk k (d :: l) = fk k l :=
  List.filter_cons_of_neg (mt beq_iff_eq.1 h)

/-- `x` stops at the first element it is not smaller than, so it passes only elements of other keys -/
theorem fk_insertBack (k : Nat × Nat) (x : D) (acc : List D) (hx : located x = true) (hacc : ∀ d ∈ acc, located d = true) :
    fk k (insertBack x acc) = fk k (x :: acc) := by
  fun_induction insertBack x acc with
  | case1 => rfl
  | case2 y ys hl ih =>
    have hne := key_ne_of_less hx (hacc y List.mem_cons_self) hl
    have ih' := ih fun d hd => hacc d (List.mem_cons_of_mem _ hd)
    by_cases hy : key y = k
    · have hx' : key x ≠ k := fun e => hne (e.trans hy.symm)
      rw [fk_cons_of_eq hy, ih', fk_cons_of_ne hx', fk_cons_of_ne hx', fk_cons_of_eq hy]
    · rw [fk_cons_of_ne hy, ih']
      by_cases hx' : key x = k
      · rw [fk_cons_of_eq hx', fk_cons_of_eq hx', fk_cons_of_ne hy]
      · rw [fk_cons_of_ne hx', fk_cons_of_ne hx', fk_cons_of_ne hy]
  | case3 => rfl

/-- the accumulator is the output reversed: ordered when no element is smaller than a later one -/
theorem pairwise_insertBack (x : D) (acc : List D) (hx : located x = true) (hacc : ∀ d ∈ acc, located d = true)
    (hs : acc.Pairwise (fun a b => less a b = false)) : (insertBack x acc).Pairwise (fun a b => less a b = false) := by
  fun_induction insertBack x acc with
  | case1 => exact List.pairwise_singleton _ _
  | case2 y ys hl ih =>
    obtain ⟨hy1, hy2⟩ := List.pairwise_cons.1 hs
    refine List.pairwise_cons.2 ⟨fun z hz => ?_, ih (fun d hd => hacc d (List.mem_cons_of_mem _ hd)) hy2⟩
    rcases mem_insertBack.1 hz with rfl | h
    · exact less_asymm hx (hacc y List.mem_cons_self) hl
    · exact hy1 z h
  | case3 y ys hl =>
    have hl' := Bool.eq_false_iff.2 hl
    refine List.pairwise_cons.2 ⟨fun z hz => ?_, hs⟩
    rcases List.mem_cons.1 hz with rfl | h
    · exact hl'
    · exact not_less_trans (hacc z (List.mem_cons_of_mem _ h)) (hacc y List.mem_cons_self) hx ((List.pairwise_cons.1 hs).1 z h) hl'

theorem isortRev_spec (acc l : List D) (hacc : ∀ d ∈ acc, located d = true) (hl : ∀ d ∈ l, located d = true)
    (hs : acc.Pairwise (fun a b => less a b = false)) :
    (isortRev acc l).Pairwise (fun a b => less a b = false) ∧ ∀ k, fk k (isortRev acc l) = fk k (l.reverse ++ acc) := by
  fun_induction isortRev acc l with
  | case1 => exact ⟨hs, fun _ => rfl⟩
  | case2 acc x xs ih =>
    have hx := hl x List.mem_cons_self
    obtain ⟨h1, h2⟩ := ih (fun d hd => (mem_insertBack.1 hd).elim (· ▸ hx) (hacc d))
      (fun d hd => hl d (List.mem_cons_of_mem _ hd)) (pairwise_insertBack x acc hx hacc hs)
    refine ⟨h1, fun k => ?_⟩
    rw [h2 k, List.reverse_cons, List.append_assoc, fk_append, fk_append, fk_insertBack k x acc hx hacc]
    rfl

/-- **Stability**: for every key, the diagnostics with that key come out in their arrival order. -/
theorem fk_sortDiags (k : Nat × Nat) (l : List D) (hl : ∀ d ∈ l, located d = true) : fk k (sortDiags l) = fk k l := by
  unfold sortDiags
  rw [fk_reverse, (isortRev_spec [] l (by simp) hl .nil).2 k, List.append_nil, fk_reverse, List.reverse_reverse]

/-- output order: no element is smaller than an earlier one -/
def Sorted : List D → Prop
  | [] => True
  | y :: ys => (∀ z ∈ ys, less z y = false) ∧ Sorted ys

theorem sorted_iff_pairwise {l : List D} : Sorted l ↔ l.Pairwise (fun a b => less b a = false) := by
  induction l with
  | nil => simp [Sorted]
  | cons y ys ih => rw [Sorted, List.pairwise_cons, ih]

theorem sorted_sortDiags (l : List D) (hl : ∀ d ∈ l, located d = true) : Sorted (sortDiags l) :=
  sorted_iff_pairwise.2 (List.pairwise_reverse.2 (isortRev_spec [] l (by simp) hl .nil).1)

/-! ### a sorted list is determined by its per-key subsequences -/

theorem mem_of_fk_eq {A B : List D} (h : ∀ k, fk k A = fk k B) {d : D} (hd : d ∈ A) : d ∈ B :=
  (mem_fk.1 (h (key d) ▸ mem_fk.2 ⟨hd, rfl⟩)).1

theorem not_less_head {b a : D} {bs : List D} (lb : located b = true) (s : Sorted (b :: bs)) (h : a ∈ b :: bs) :
    less a b = false := by
  rcases List.mem_cons.mp h with rfl | e
  · exact less_irrefl lb
  · exact s.1 a e

theorem sorted_unique {A B : List D} (hA : ∀ d ∈ A, located d = true) (hB : ∀ d ∈ B, located d = true)
    (sA : Sorted A) (sB : Sorted B) (h : ∀ k, fk k A = fk k B) : A = B := by
  induction A generalizing B with
  | nil =>
    cases B with
    | nil => rfl
    | cons b bs => exact nomatch mem_of_fk_eq (fun k => (h k).symm) (List.mem_cons_self (a := b))
  | cons a as ih =>
    cases B with
    | nil => exact nomatch mem_of_fk_eq h (List.mem_cons_self (a := a))
    | cons b bs =>
      have la := hA a List.mem_cons_self
      have lb := hB b List.mem_cons_self
      -- each head occurs in the other list, so neither is smaller than the other: they have the same key
      have hk : key a = key b := key_eq_of_incomparable la lb
        (not_less_head lb sB (mem_of_fk_eq h List.mem_cons_self))
        (not_less_head la sA (mem_of_fk_eq (fun k => (h k).symm) List.mem_cons_self))
      -- and are the first of that key on both sides
      have hh := h (key a)
      rw [fk_cons_of_eq rfl, fk_cons_of_eq hk.symm] at hh
      obtain ⟨rfl, _⟩ := List.cons.inj hh
      refine congrArg _ (ih (fun d hd => hA d (List.mem_cons_of_mem _ hd)) (fun d hd => hB d (List.mem_cons_of_mem _ hd))
        sA.2 sB.2 fun k => ?_)
      have hk' := h k
      by_cases ha : key a = k
      · rw [fk_cons_of_eq ha, fk_cons_of_eq ha] at hk'
        exact (List.cons.inj hk').2
      · rwa [fk_cons_of_ne ha, fk_cons_of_ne ha] at hk'

/-- **Arrival-order invariance**: two arrival orders of located diagnostics that agree on the relative order of the
    diagnostics of every single (file, line) key are emitted identically. -/
theorem sort_arrival_invariant (l₁ l₂ : List D) (h1 : ∀ d ∈ l₁, located d = true) (h2 : ∀ d ∈ l₂, located d = true)
    (h : ∀ k, fk k l₁ = fk k l₂) : sortDiags l₁ = sortDiags l₂ := by
  apply sorted_unique (located_sortDiags l₁ h1) (located_sortDiags l₂ h2) (sorted_sortDiags l₁ h1) (sorted_sortDiags l₂ h2)
  intro k
  rw [fk_sortDiags k l₁ h1, fk_sortDiags k l₂ h2]
  exact h k

end FerretVerif.Diag
