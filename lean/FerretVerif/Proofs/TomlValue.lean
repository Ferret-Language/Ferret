/-
  C20, value side: `parseValue (formatValue v) = expectRead v` for a `writable` value, and the two notions the line and
  file sides take from here. `tight` (not empty, no white space at either end) is what `trimSpace` returns unchanged
  from between two `allSp` margins (`trimSpace_sandwich`). `Token` is a text that `TrimSpace`, the line splitter and
  the comment stripper leave whole: a bare key, a number, `true`/`false`, a quoted string; it is `tight`, and the
  text of every writable value is one (`formatValue_token`).
  The only assumption on `strconv.ParseFloat` is the hypothesis
  `hpf : ∀ t, floatRaw t = true → pf t = true` of the theorems (never an axiom).
-/
import FerretVerif.Model.Toml

namespace FerretVerif.Toml

/-! ## Texts whose characters are all of one class -/

theorem not_mem_of_class {p : Char → Bool} {t : List Char} (h : ∀ c ∈ t, p c = true) {a : Char}
    (ha : p a = false) : a ∉ t :=
  fun m => nomatch ha.symm.trans (h a m)

theorem nonempty_all_iff {p : Char → Bool} {s : List Char} :
    (!s.isEmpty && s.all p) = true ↔ s ≠ [] ∧ ∀ c ∈ s, p c = true := by
  cases s <;> simp

/-! ## Domain predicates -/

/-- a string value the writer can emit faithfully: no `"`, `\`, LF, CR, and not the text true/false -/
def okStr (s : List Char) : Bool :=
  s.all (fun c => c != '"' && c != '\\' && c != '\n' && c != '\r')
    && s != "true".toList && s != "false".toList

/-- `[A-Za-z0-9_-]` -/
def keyChar (c : Char) : Bool :=
  let n := c.toNat
  (65 ≤ n && n ≤ 90) || (97 ≤ n && n ≤ 122) || (48 ≤ n && n ≤ 57) || n == 95 || n == 45

def bareKey (k : List Char) : Bool := !k.isEmpty && k.all keyChar

def digits1 (s : List Char) : Bool := !s.isEmpty && s.all isDigit

def unsignedFloat (s : List Char) : Bool :=
  let ip := s.takeWhile isDigit
  let rest := s.dropWhile isDigit
  digits1 ip && (rest.isEmpty || (rest.head? == some '.' && digits1 (rest.drop 1)))

/-- shape of `strconv.FormatFloat(v,'f',-1,64)` for a finite `v`: `-?[0-9]+(\.[0-9]+)?` -/
def floatRaw (s : List Char) : Bool :=
  unsignedFloat (if s.head? == some '-' then s.drop 1 else s)

def inInt64 (i : Int) : Bool := decide (-(2 ^ 63 : Int) ≤ i) && decide (i ≤ 2 ^ 63 - 1)

def writable : WVal → Bool
  | .str s => okStr s
  | .bool _ => true
  | .int i => inInt64 i
  | .float raw => floatRaw raw

def blanks (ws : List Char) : Bool := ws.all (fun c => isSpace c && c != '\n')

/-! ## TrimSpace -/

/-- white space, line feeds included (`blanks` excludes them) -/
def allSp (ws : List Char) : Prop := ∀ c ∈ ws, isSpace c = true

def tight (m : List Char) : Prop :=
  m ≠ [] ∧ (∀ a ∈ m.head?, isSpace a = false) ∧ (∀ a ∈ m.getLast?, isSpace a = false)

theorem allSp_nil : allSp [] := fun _ h => nomatch h

theorem allSp_append {a b : List Char} (ha : allSp a) (hb : allSp b) : allSp (a ++ b) :=
  fun c hc => (List.mem_append.mp hc).elim (ha c) (hb c)

theorem blanks_allSp {ws : List Char} (h : blanks ws = true) : allSp ws :=
  fun c hc => (Bool.and_eq_true_iff.mp (List.all_eq_true.mp h c hc)).1

theorem blanks_noLF {ws : List Char} (h : blanks ws = true) : '\n' ∉ ws :=
  not_mem_of_class (List.all_eq_true.mp h) (by decide)

/-- the next white space is U+0085 -/
theorem not_isSpace_of_range {c : Char} (h1 : 33 ≤ c.toNat) (h2 : c.toNat ≤ 132) : isSpace c = false := by
  unfold isSpace
  simp only [Bool.or_eq_false_iff, Bool.and_eq_false_iff, decide_eq_false_iff_not, beq_eq_false_iff_ne]
  omega

theorem trimLeft_allSp_append {ws : List Char} (h : allSp ws) (s : List Char) :
    trimLeft (ws ++ s) = trimLeft s :=
  List.dropWhile_append_of_pos h

theorem trimLeft_allSp {ws : List Char} (h : allSp ws) : trimLeft ws = [] := by
  have := trimLeft_allSp_append h []
  rwa [List.append_nil] at this

theorem trimLeft_eq_self {s : List Char} (h : ∀ a ∈ s.head?, isSpace a = false) : trimLeft s = s := by
  cases s with
  | nil => rfl
  | cons a r => exact List.dropWhile_cons_of_neg (by simp [h a rfl])

theorem trimRight_allSp {ws : List Char} (h : allSp ws) : trimRight ws = [] := by
  have : trimLeft ws.reverse = [] := trimLeft_allSp (fun c hc => h c (List.mem_reverse.mp hc))
  rw [trimRight, show ws.reverse.dropWhile isSpace = [] from this]; rfl

theorem trimRight_append {m : List Char} (hm : ∀ a ∈ m.getLast?, isSpace a = false) (rest : List Char) :
    trimRight (m ++ rest) = m ++ trimRight rest := by
  have : m.reverse.dropWhile isSpace = m.reverse := trimLeft_eq_self (by rwa [List.head?_reverse])
  unfold trimRight
  rw [List.reverse_append, List.dropWhile_append]
  cases h : rest.reverse.dropWhile isSpace with
  | nil => simp [this]
  | cons a r => simp

theorem trimSpace_sandwich {ws m : List Char} (hw : allSp ws) (hm : tight m) (rest : List Char) :
    trimSpace (ws ++ m ++ rest) = m ++ trimRight rest := by
  obtain ⟨hne, hh, hl⟩ := hm
  cases m with
  | nil => exact absurd rfl hne
  | cons a X =>
    rw [trimSpace, List.append_assoc, trimLeft_allSp_append hw,
      trimLeft_eq_self (s := a :: X ++ rest) hh, trimRight_append hl]

theorem trimSpace_allSp {ws : List Char} (h : allSp ws) : trimSpace ws = [] := by
  rw [trimSpace, trimLeft_allSp h]; rfl

theorem trimSpace_tight {m ws : List Char} (hm : tight m) (h : allSp ws) : trimSpace (m ++ ws) = m := by
  have := trimSpace_sandwich allSp_nil hm ws
  rwa [trimRight_allSp h, List.append_nil] at this

theorem trimSpace_eq_self {m : List Char} (hm : tight m) : trimSpace m = m := by
  have := trimSpace_tight hm allSp_nil
  rwa [List.append_nil] at this

theorem tight_of_noSpace {t : List Char} (hne : t ≠ []) (h : ∀ c ∈ t, isSpace c = false) : tight t :=
  ⟨hne, fun a ha => h a (List.mem_of_mem_head? ha), fun a ha => h a (List.mem_of_getLast? ha)⟩

theorem tight_wrap {A C : List Char} (hA : tight A) (B : List Char) (hC : tight C) : tight (A ++ B ++ C) := by
  obtain ⟨hAne, hAh, _⟩ := hA
  obtain ⟨hCne, _, hCl⟩ := hC
  refine ⟨by simp [hAne], ?_, ?_⟩
  · cases A with
    | nil => exact absurd rfl hAne
    | cons x A => exact hAh
  · intro a ha
    rw [List.getLast?_append, Option.or_of_isSome (by simpa using hCne)] at ha
    exact hCl a ha

theorem tight_ends {a b : Char} (ha : isSpace a = false) (hb : isSpace b = false) (X : List Char) :
    tight (a :: X ++ [b]) :=
  tight_wrap (A := [a]) (tight_of_noSpace (List.cons_ne_nil _ _) fun _ h => List.mem_singleton.mp h ▸ ha) X
    (tight_of_noSpace (List.cons_ne_nil _ _) fun _ h => List.mem_singleton.mp h ▸ hb)

theorem tight.last_ne_CR {m : List Char} (h : tight m) : m.getLast? ≠ some '\r' :=
  fun e => absurd (h.2.2 _ e) (by decide)

/-! ## Itoa / Atoi -/

theorem digits1_iff {s : List Char} : digits1 s = true ↔ s ≠ [] ∧ ∀ c ∈ s, isDigit c = true :=
  nonempty_all_iff

def digitsVal (ds : List Char) : Nat := ds.foldl (fun acc c => acc * 10 + (c.toNat - 48)) 0

theorem digit_ofNat : ∀ n, n < 10 →
    isDigit (Char.ofNat (48 + n)) = true ∧ (Char.ofNat (48 + n)).toNat - 48 = n := by decide

theorem natDigits_digits1 (n : Nat) : digits1 (natDigits n) = true := by
  fun_induction natDigits n with
  | case1 n _ h => simpa [digits1] using (digit_ofNat n h).1
  | case2 n _ h ih =>
    have hd := digit_ofNat (n % 10) (Nat.mod_lt _ (by decide))
    exact digits1_iff.mpr
      ⟨by simp, List.forall_mem_append.mpr ⟨(digits1_iff.mp ih).2, List.forall_mem_singleton.mpr hd.1⟩⟩

theorem digitsVal_natDigits (n : Nat) : digitsVal (natDigits n) = n := by
  fun_induction natDigits n with
  | case1 n _ h => simpa [digitsVal] using (digit_ofNat n h).2
  | case2 n _ h ih =>
    have hd := digit_ofNat (n % 10) (Nat.mod_lt _ (by decide))
    unfold digitsVal at ih ⊢
    rw [List.foldl_append, ih, List.foldl_cons, List.foldl_nil, hd.2]
    exact Nat.div_add_mod' n 10

theorem atoi_digits {ds : List Char} (h : digits1 ds = true) :
    atoi ds = if inInt64 (digitsVal ds) then some (digitsVal ds : Int) else none := by
  obtain ⟨hne, hd⟩ := digits1_iff.mp h
  cases ds with
  | nil => exact absurd rfl hne
  | cons d r =>
    have h1 : d ≠ '+' := (List.ne_of_not_mem_cons (not_mem_of_class hd (by decide))).symm
    have h2 : d ≠ '-' := (List.ne_of_not_mem_cons (not_mem_of_class hd (by decide))).symm
    have hall : (d :: r).all isDigit = true := List.all_eq_true.mpr hd
    unfold atoi
    simp [h1, h2, hall, digitsVal, inInt64]

theorem atoi_neg_digits {ds : List Char} (h : digits1 ds = true) :
    atoi ('-' :: ds) = if inInt64 (-(digitsVal ds : Int)) then some (-(digitsVal ds : Int)) else none := by
  obtain ⟨hne, hd⟩ := digits1_iff.mp h
  have hall : ds.all isDigit = true := List.all_eq_true.mpr hd
  have hemp : ds.isEmpty = false := by simpa using hne
  unfold atoi
  simp [hall, hemp, digitsVal, inInt64]

theorem atoi_itoa {i : Int} (h : inInt64 i = true) : atoi (itoa i) = some i := by
  unfold itoa
  split
  next hi =>
    rw [atoi_neg_digits (natDigits_digits1 _), digitsVal_natDigits, Int.ofNat_natAbs_of_nonpos (Int.le_of_lt hi),
      Int.neg_neg, if_pos h]
  next hi =>
    rw [atoi_digits (natDigits_digits1 _), digitsVal_natDigits, Int.toNat_of_nonneg (Int.not_lt.mp hi), if_pos h]

theorem atoi_none_of_mem {s : List Char} {c : Char} (hc : c ∈ s) (hd : isDigit c = false)
    (hp : c ≠ '+') (hm : c ≠ '-') : atoi s = none := by
  unfold atoi
  split
  next neg ds heq =>
    have hmem : c ∈ ds := by
      split at heq
      · cases heq; simpa [hp] using hc
      · cases heq; simpa [hm] using hc
      · cases heq; exact hc
    have : ds.all isDigit = false := by
      rw [List.all_eq_false]; exact ⟨c, hmem, by simp [hd]⟩
    simp [this]

/-! ## Float texts -/

theorem unsignedFloat_iff {s : List Char} : unsignedFloat s = true ↔
    digits1 s = true ∨ ∃ ip fp, digits1 ip = true ∧ digits1 fp = true ∧ s = ip ++ '.' :: fp := by
  constructor
  · intro h
    simp only [unsignedFloat, Bool.and_eq_true, Bool.or_eq_true] at h
    have e : s = s.takeWhile isDigit ++ s.dropWhile isDigit := List.takeWhile_append_dropWhile.symm
    cases hr : s.dropWhile isDigit with
    | nil =>
      rw [hr, List.append_nil] at e
      exact Or.inl (e ▸ h.1)
    | cons a r =>
      rw [hr] at h e
      obtain ⟨rfl, hr'⟩ : a = '.' ∧ digits1 r = true := by simpa using h.2
      exact Or.inr ⟨_, r, h.1, hr', e⟩
  · rintro (h | ⟨ip, fp, hip, hfp, rfl⟩)
    · have hd := (digits1_iff.mp h).2
      have ht : s.takeWhile isDigit = s := by simpa using List.takeWhile_append_of_pos (l₂ := []) hd
      have hr : s.dropWhile isDigit = [] := by simpa using List.dropWhile_append_of_pos (l₂ := []) hd
      simp [unsignedFloat, ht, hr, h]
    · have hd := (digits1_iff.mp hip).2
      have : isDigit '.' = false := rfl
      rw [unsignedFloat, List.takeWhile_append_of_pos hd, List.dropWhile_append_of_pos hd]
      simp [hip, hfp, this]

theorem floatRaw_iff {s : List Char} :
    floatRaw s = true ↔ unsignedFloat s = true ∨ ∃ b, s = '-' :: b ∧ unsignedFloat b = true := by
  cases s with
  | nil => simp [floatRaw]
  | cons a r =>
    by_cases ha : a = '-'
    · -- `-` is no digit
      subst ha
      have : unsignedFloat ('-' :: r) = false := rfl
      simp [floatRaw, this]
    · simp [floatRaw, ha]

def floatChar (c : Char) : Bool := isDigit c || c == '-' || c == '.'

/-- what the writer emits for integers and floats -/
def numeric (t : List Char) : Prop := t ≠ [] ∧ ∀ c ∈ t, floatChar c = true

theorem digits1_floatChar {p : List Char} (h : digits1 p = true) : ∀ c ∈ p, floatChar c = true :=
  fun c hc => by simp [floatChar, (digits1_iff.mp h).2 c hc]

theorem unsignedFloat_numeric {s : List Char} (h : unsignedFloat s = true) : numeric s := by
  rcases unsignedFloat_iff.mp h with hs | ⟨ip, fp, hip, hfp, rfl⟩
  · exact ⟨(digits1_iff.mp hs).1, digits1_floatChar hs⟩
  · exact ⟨List.append_ne_nil_of_left_ne_nil (digits1_iff.mp hip).1 _, List.forall_mem_append.mpr
      ⟨digits1_floatChar hip, List.forall_mem_cons.mpr ⟨by decide, digits1_floatChar hfp⟩⟩⟩

theorem floatRaw_numeric {s : List Char} (h : floatRaw s = true) : numeric s := by
  rcases floatRaw_iff.mp h with hu | ⟨b, rfl, hu⟩
  · exact unsignedFloat_numeric hu
  · exact ⟨by simp, List.forall_mem_cons.mpr ⟨by decide, (unsignedFloat_numeric hu).2⟩⟩

theorem formatFloat_neg (b : List Char) : formatFloat ('-' :: b) = '-' :: formatFloat b := by
  have : (isDigit '-' || '-' == '-') = true := by decide
  simp only [formatFloat, List.all_cons, this, Bool.true_and]
  split <;> rfl

theorem formatFloat_unsigned {s : List Char} (h : unsignedFloat s = true) :
    unsignedFloat (formatFloat s) = true ∧ '.' ∈ formatFloat s := by
  rcases unsignedFloat_iff.mp h with hs | ⟨ip, fp, hip, hfp, rfl⟩
  · -- digits only: `.0` is appended
    rw [formatFloat, if_pos (List.all_eq_true.mpr fun c hc => by simp [(digits1_iff.mp hs).2 c hc])]
    exact ⟨unsignedFloat_iff.mpr (Or.inr ⟨s, ['0'], hs, by decide, rfl⟩), by simp⟩
  · rw [formatFloat, List.all_eq_false.mpr ⟨'.', by simp, by decide⟩]
    exact ⟨h, by simp⟩

theorem formatFloat_shape {raw : List Char} (h : floatRaw raw = true) :
    floatRaw (formatFloat raw) = true ∧ '.' ∈ formatFloat raw := by
  rcases floatRaw_iff.mp h with hu | ⟨b, rfl, hu⟩
  · obtain ⟨h1, h2⟩ := formatFloat_unsigned hu
    exact ⟨floatRaw_iff.mpr (Or.inl h1), h2⟩
  · obtain ⟨h1, h2⟩ := formatFloat_unsigned hu
    rw [formatFloat_neg]
    exact ⟨floatRaw_iff.mpr (Or.inr ⟨_, rfl, h1⟩), List.mem_cons_of_mem _ h2⟩

/-! ## Value level -/

theorem okStr_chars {s : List Char} (h : okStr s = true) : '"' ∉ s ∧ '\\' ∉ s ∧ '\n' ∉ s := by
  simp only [okStr, Bool.and_eq_true] at h
  have hall := List.all_eq_true.mp h.1.1
  exact ⟨not_mem_of_class hall (by decide), not_mem_of_class hall (by decide), not_mem_of_class hall (by decide)⟩

theorem formatValue_str {s : List Char} (h : okStr s = true) :
    formatValue (.str s) = '"' :: s ++ ['"'] := by
  simp only [okStr, Bool.and_eq_true, bne_iff_ne] at h
  rw [formatValue, beq_eq_false_iff_ne.mpr h.1.2, beq_eq_false_iff_ne.mpr h.2]
  rfl

theorem trimQuotes_quoted {s : List Char} (h : '"' ∉ s) : trimQuotes ('"' :: s ++ ['"']) = s := by
  have hr : s.reverse.dropWhile (· == '"') = s.reverse :=
    List.dropWhile_beq_eq_self_of_head?_ne fun e => h (List.mem_reverse.mp (List.mem_of_mem_head? e))
  cases s with
  | nil => rfl
  | cons a r =>
    have : (a == '"') = false := beq_eq_false_iff_ne.mpr fun e => h (e ▸ List.mem_cons_self)
    simpa [trimQuotes, this] using hr

theorem parseValue_quoted (pf : List Char → Bool) {s : List Char} (h : '"' ∉ s) :
    parseValue pf ('"' :: s ++ ['"']) = .str s := by
  rw [parseValue, if_pos (by rw [List.getLast?_concat]; rfl), trimQuotes_quoted h]

theorem floatChar_not_space {c : Char} (h : floatChar c = true) : isSpace c = false := by
  simp only [floatChar, isDigit, Bool.or_eq_true, Bool.and_eq_true, decide_eq_true_eq, beq_iff_eq] at h
  rcases h with (h | rfl) | rfl
  · exact not_isSpace_of_range (by omega) (by omega)
  · decide
  · decide

/-- the first character of a numeric text is none of `"`, `t`, `f`: `parseValue` takes the text for a number -/
theorem parseValue_numeric (pf : List Char → Bool) {val : List Char} (h : numeric val) :
    parseValue pf val =
      match atoi val with
      | some i => .int i
      | none => if pf val then .float val else .str val := by
  cases val with
  | nil => exact absurd rfl h.1
  | cons a r =>
    have ha : ∀ b, floatChar b = false → a ≠ b := fun b hb =>
      (List.ne_of_not_mem_cons (not_mem_of_class h.2 hb)).symm
    simp [parseValue, ha '"' (by decide), ha 't' (by decide), ha 'f' (by decide)]
    rfl

theorem itoa_numeric (i : Int) : numeric (itoa i) := by
  unfold itoa
  split
  · exact ⟨by simp, List.forall_mem_cons.mpr ⟨by decide, digits1_floatChar (natDigits_digits1 _)⟩⟩
  · exact ⟨(digits1_iff.mp (natDigits_digits1 _)).1, digits1_floatChar (natDigits_digits1 _)⟩

theorem parseValue_formatValue (pf : List Char → Bool)
    (hpf : ∀ t, floatRaw t = true → pf t = true) (v : WVal) (hv : writable v = true) :
    parseValue pf (formatValue v) = expectRead v := by
  cases v with
  | str s =>
    rw [formatValue_str hv, parseValue_quoted pf (okStr_chars hv).1]
    rfl
  | bool b => cases b <;> rfl
  | int i =>
    show parseValue pf (itoa i) = .int i
    rw [parseValue_numeric pf (itoa_numeric i), atoi_itoa hv]
  | float raw =>
    obtain ⟨hsh, hdot⟩ := formatFloat_shape (raw := raw) hv
    show parseValue pf (formatFloat raw) = .float (formatFloat raw)
    rw [parseValue_numeric pf (floatRaw_numeric hsh), atoi_none_of_mem hdot (by decide) (by decide) (by decide)]
    simp [hpf _ hsh]

/-! ## Shape of a formatted value -/

/-- a value text that `TrimSpace`, the line splitter and the comment stripper leave whole -/
inductive Token : List Char → Prop
  | plain {t : List Char} :
      t ≠ [] → (∀ c ∈ t, isSpace c = false) → '\\' ∉ t → '"' ∉ t → '#' ∉ t → Token t
  | quoted {s : List Char} : '"' ∉ s → '\\' ∉ s → '\n' ∉ s → Token ('"' :: s ++ ['"'])

theorem Token.tight {t : List Char} (h : Token t) : tight t := by
  cases h with
  | plain hne hsp _ _ _ => exact tight_of_noSpace hne hsp
  | quoted _ _ _ => exact tight_ends (by decide) (by decide) _

theorem Token.noLF {t : List Char} (h : Token t) : '\n' ∉ t := by
  cases h with
  | plain _ hsp _ _ _ => exact fun h => absurd (hsp _ h) (by decide)
  | quoted _ _ hn => simpa using hn

theorem Token.of_class {p : Char → Bool} (hsp : ∀ c, p c = true → isSpace c = false)
    (h1 : p '\\' = false) (h2 : p '"' = false) (h3 : p '#' = false) {t : List Char} (hne : t ≠ [])
    (ht : ∀ c ∈ t, p c = true) : Token t :=
  .plain hne (fun c hc => hsp c (ht c hc)) (not_mem_of_class ht h1) (not_mem_of_class ht h2) (not_mem_of_class ht h3)

theorem numeric.token {t : List Char} (h : numeric t) : Token t :=
  .of_class (fun _ => floatChar_not_space) (by decide) (by decide) (by decide) h.1 h.2

theorem keyChar_not_space {c : Char} (h : keyChar c = true) : isSpace c = false := by
  simp only [keyChar, Bool.or_eq_true, Bool.and_eq_true, decide_eq_true_eq, beq_iff_eq] at h
  exact not_isSpace_of_range (by omega) (by omega)

theorem bareKey_iff {k : List Char} : bareKey k = true ↔ k ≠ [] ∧ ∀ c ∈ k, keyChar c = true :=
  nonempty_all_iff

/-- also used for the texts `true` and `false` -/
theorem bareKey_token {k : List Char} (h : bareKey k = true) : Token k :=
  .of_class (fun _ => keyChar_not_space) (by decide) (by decide) (by decide) (bareKey_iff.mp h).1 (bareKey_iff.mp h).2

theorem formatValue_token {v : WVal} (hv : writable v = true) : Token (formatValue v) := by
  cases v with
  | str s =>
    obtain ⟨h1, h2, h3⟩ := okStr_chars hv
    rw [formatValue_str hv]; exact .quoted h1 h2 h3
  | bool b => cases b <;> exact bareKey_token (by decide)
  | int i => exact (itoa_numeric i).token
  | float raw => exact (floatRaw_numeric (formatFloat_shape (raw := raw) hv).1).token

/-! ## Test vectors for the domain predicates -/

theorem okStr_sample : okStr " a # b = [c] ".toList = true := by decide
example : okStr " a # b = [c] ".toList = true := okStr_sample
example : okStr "true".toList = false := by decide
example : okStr "say \"hi\"".toList = false := by decide
theorem bareKey_sample : bareKey "max-depth_2".toList = true := by decide
example : bareKey "max-depth_2".toList = true := bareKey_sample
example : bareKey "a b".toList = false := by decide
example : bareKey [] = false := by decide
theorem floatRaw_sample : floatRaw "-12.5".toList = true := by decide
example : floatRaw "-12.5".toList = true := floatRaw_sample
example : floatRaw "3".toList = true := by decide
example : floatRaw "0.000001".toList = true := by decide
example : floatRaw "1e21".toList = false := by decide
example : floatRaw "-.5".toList = false := by decide
example : floatRaw "5.".toList = false := by decide
example : floatRaw " 5".toList = false := by decide
example : floatRaw "+Inf".toList = false := by decide
example : inInt64 (-9223372036854775808) = true := by decide
example : inInt64 9223372036854775808 = false := by decide
example : blanks " \t ".toList = true := by decide
example : blanks " \n".toList = false := by decide

end FerretVerif.Toml
