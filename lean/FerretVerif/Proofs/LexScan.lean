/-
  The scanners of Model/Lexer.lean as regular expressions (C13, C19).  The number, identifier and line-comment
  patterns are built from four constructions on length functions (`List Byte → Nat`, 0 = no match); with `[q]` for
  a byte of class `q`:
    `lead q g`  is `[q] g`, `g` may match nothing;       `alt f g` is `f | g`, the first that matches;
    `lead1 q g` is `[q] g`, `g` has to match;            `seq f g` is `f g`, `g` may match nothing;
  `nz` makes a length the scanners' result (0 ↦ `none`).  Each model scanner is proved equal to its expression once,
  and what holds of the constructions (here `Short`, in Proofs/LexStable.lean locality) then holds of every scanner.
  The two loops satisfy fixed-point equations `f = E[f]` (`spanLen_eq`, `digitsTail_eq`): a property of them is an
  induction on the length of the text with the construction lemma as the step (`Local.of_shorter`), while `Short` of
  the two is by `fun_induction` on the loop itself.  Strings and block comments are searches for a closing delimiter.
-/
import FerretVerif.Model.Lexer

namespace FerretVerif.Lexer

def lead (q : Byte → Bool) (g : List Byte → Nat) : List Byte → Nat
  | [] => 0
  | c :: r => if q c then g r + 1 else 0

def lead1 (q : Byte → Bool) (g : List Byte → Nat) : List Byte → Nat
  | [] => 0
  | c :: r => if q c && g r != 0 then g r + 1 else 0

def alt (f g : List Byte → Nat) (s : List Byte) : Nat := if f s = 0 then g s else f s

def seq (f g : List Byte → Nat) (s : List Byte) : Nat := if f s = 0 then 0 else f s + g (s.drop (f s))

def nz (k : Nat) : Option Nat := if k = 0 then none else some k

theorem nz_eq_some {k n : Nat} : nz k = some n ↔ k = n ∧ n ≠ 0 := by
  unfold nz; split
  · rename_i h; exact ⟨nofun, fun ⟨e, h0⟩ => absurd (e ▸ h) h0⟩
  · rename_i h; rw [Option.some.injEq]; exact ⟨fun e => ⟨e, e ▸ h⟩, And.left⟩

theorem nz_getD (k : Nat) : (nz k).getD 0 = k := by
  unfold nz; split <;> simp [*]

theorem lead1_of_not {q : Byte → Bool} {c : Byte} (h : q c = false) (g : List Byte → Nat) (r : List Byte) :
    lead1 q g (c :: r) = 0 := by
  simp only [lead1, h, Bool.false_and, Bool.false_eq_true, if_false]

/-- `p*` -/
theorem spanLen_eq (p : Byte → Bool) : spanLen p = lead p (spanLen p) := by
  funext s; cases s <;> rfl

/-! ### the scanners consume at least one and at most `s.length` bytes -/

def Short (f : List Byte → Nat) : Prop := ∀ s, f s ≤ s.length

-- inside `Short.lead` … `Short.seq` the bare names mean these theorems: the constructions are written `Lexer.lead` …

theorem Short.lead {q : Byte → Bool} {g : List Byte → Nat} (hg : Short g) : Short (lead q g) := by
  intro s
  fun_cases Lexer.lead q g s with
  | case1 => exact Nat.le_refl 0
  | case2 c r => exact Nat.succ_le_succ (hg r)
  | case3 => exact Nat.zero_le _

theorem Short.lead1 {q : Byte → Bool} {g : List Byte → Nat} (hg : Short g) : Short (lead1 q g) := by
  intro s
  fun_cases Lexer.lead1 q g s with
  | case1 => exact Nat.le_refl 0
  | case2 c r => exact Nat.succ_le_succ (hg r)
  | case3 => exact Nat.zero_le _

theorem Short.alt {f g : List Byte → Nat} (hf : Short f) (hg : Short g) : Short (alt f g) := by
  intro s; unfold Lexer.alt; split
  · exact hg s
  · exact hf s

theorem Short.seq {f g : List Byte → Nat} (hf : Short f) (hg : Short g) : Short (seq f g) := by
  intro s
  unfold Lexer.seq; split
  · exact Nat.zero_le _
  · have h2 := hg (s.drop (f s))
    rw [List.length_drop] at h2
    exact Nat.le_trans (Nat.add_le_add_left h2 _) (Nat.le_of_eq (Nat.add_sub_cancel' (hf s)))

theorem nz_bounds {f : List Byte → Nat} (hf : Short f) {s : List Byte} {n : Nat} (h : nz (f s) = some n) :
    1 ≤ n ∧ n ≤ s.length := by
  obtain ⟨rfl, h0⟩ := nz_eq_some.mp h
  exact ⟨Nat.pos_of_ne_zero h0, hf s⟩

theorem spanLen_short (p : Byte → Bool) : Short (spanLen p) := by
  intro s
  fun_induction spanLen p s with
  | case1 => exact Nat.le_refl 0
  | case2 c cs _ ih => exact Nat.succ_le_succ ih
  | case3 => exact Nat.zero_le _

theorem digitsTail_short (p : Byte → Bool) : Short (digitsTail p) := by
  intro s
  fun_induction digitsTail p s <;> simp_all <;> omega

/-! ### where a span stops -/

theorem spanLen_drop (p : Byte → Bool) (x : List Byte) : spanLen p (x.drop (spanLen p x)) = 0 := by
  fun_induction spanLen p x with
  | case1 => rfl
  | case2 c cs h ih => exact ih
  | case3 c cs h => rw [List.drop_zero, spanLen, if_neg h]

theorem spanLen_append_stop {p : Byte → Bool} {body : List Byte} {c : Byte} {x : List Byte}
    (hb : ∀ b ∈ body, p b = true) (hc : p c = false) : spanLen p (body ++ c :: x) = body.length := by
  induction body with
  | nil => rw [List.nil_append, spanLen, hc]; rfl
  | cons b bs ih =>
    rw [List.cons_append, spanLen, if_pos (hb b List.mem_cons_self), ih fun d hd => hb d (List.mem_cons_of_mem _ hd)]; rfl

/-! ### numbers -/

/-- `(D|_D)*` -/
theorem digitsTail_eq (p : Byte → Bool) :
    digitsTail p = alt (lead p (digitsTail p)) (lead1 (· = 95) (lead p (digitsTail p))) := by
  funext s
  unfold alt
  match s with
  | [] => rfl
  | [c] => by_cases hc : p c = true <;> simp [digitsTail, lead, lead1, hc]
  | c :: d :: rest =>
    by_cases hc : p c = true
    · simp [digitsTail, lead, hc]
    · by_cases hd : p d = true <;> simp [digitsTail, lead, lead1, hc, hd]

theorem digitsRun_eq (p : Byte → Bool) : digitsRun p = lead p (digitsTail p) := by
  funext s
  cases s with
  | nil => rfl
  | cons c r => simp only [digitsRun, lead, Nat.add_comm]

theorem fracLen_eq : fracLen = lead1 (· = 46) (digitsRun isDigit) := by
  funext s
  unfold fracLen
  split
  · simp [lead1, Nat.add_comm]
  · rename_i h
    cases s with
    | nil => rfl
    | cons c r =>
      exact (lead1_of_not (decide_eq_false fun e => h r (by rw [e])) _ r).symm

theorem digitsRun_sign {sg : Byte} (h : (sg = 43 || sg = 45) = true) (r : List Byte) : digitsRun isDigit (sg :: r) = 0 := by
  have : isDigit sg = false := by
    simp only [Bool.or_eq_true, decide_eq_true_eq] at h
    rcases h with rfl | rfl <;> decide
  simp only [digitsRun, this, Bool.false_eq_true, if_false]

/-- a sign is no digit, so the second alternative is only reached on an unsigned run, as in the model -/
theorem expLen_eq : expLen = lead1 (fun c => c = 101 || c = 69)
    (alt (lead1 (fun c => c = 43 || c = 45) (digitsRun isDigit)) (digitsRun isDigit)) := by
  funext s
  match s with
  | [] => rfl
  | [c] => simp [expLen, lead1, alt, digitsRun]
  | c :: sg :: r =>
    simp only [expLen, lead1, alt]
    by_cases hc : (c = 101 || c = 69) = true
    · by_cases hs : (sg = 43 || sg = 45) = true
      · by_cases hk : digitsRun isDigit r = 0
        · simp [hc, hs, hk, digitsRun_sign hs]
        · simp [hc, hs, hk]; omega
      · by_cases hk : digitsRun isDigit (sg :: r) = 0
        · simp [hc, hs, hk]
        · simp [hc, hs, hk]; omega
    · simp [hc]

def prefixedLen (m1 m2 : Byte) (p : Byte → Bool) : List Byte → Nat :=
  lead1 (· = 48) (lead1 (fun m => m = m1 || m = m2) (digitsRun p))

def floatLen : List Byte → Nat := seq (seq (digitsRun isDigit) fracLen) expLen

def unsignedLen : List Byte → Nat :=
  alt (prefixedLen 120 88 isHex) (alt (prefixedLen 111 79 isOct) (alt (prefixedLen 98 66 isBin) floatLen))

def numberLen : List Byte → Nat := alt (lead1 (· = 45) unsignedLen) unsignedLen

theorem scanPrefixed_eq (m1 m2 : Byte) (p : Byte → Bool) (s : List Byte) :
    scanPrefixed m1 m2 p s = nz (prefixedLen m1 m2 p s) := by
  unfold scanPrefixed prefixedLen
  split
  · rename_i m rest
    by_cases hm : (m = m1 || m = m2) = true
    · by_cases hk : digitsRun p rest = 0
      · simp [lead1, nz, hm, hk]
      · simp [lead1, nz, hm, hk]; omega
    · simp [lead1, nz, hm]
  · rename_i h
    match s with
    | [] => rfl
    | [c] => simp [lead1, nz]
    | c :: m :: rest => rw [lead1_of_not (decide_eq_false fun e => h m rest (by rw [e]))]; rfl

theorem scanFloat_eq (s : List Byte) : scanFloat s = nz (floatLen s) := by
  unfold scanFloat floatLen seq nz
  by_cases h : digitsRun isDigit s = 0
  · simp [h]
  · simp [h, List.drop_drop]

theorem scanUnsigned_eq (s : List Byte) : scanUnsigned s = nz (unsignedLen s) := by
  unfold scanUnsigned unsignedLen
  rw [scanPrefixed_eq, scanPrefixed_eq, scanPrefixed_eq, scanFloat_eq]
  unfold alt
  by_cases h1 : prefixedLen 120 88 isHex s = 0
  · rw [h1, if_pos rfl]
    by_cases h2 : prefixedLen 111 79 isOct s = 0
    · rw [h2, if_pos rfl]
      by_cases h3 : prefixedLen 98 66 isBin s = 0
      · rw [h3, if_pos rfl]; rfl
      · rw [if_neg h3, (nz_eq_some (n := _)).mpr ⟨rfl, h3⟩]; rfl
    · rw [if_neg h2, (nz_eq_some (n := _)).mpr ⟨rfl, h2⟩]; rfl
  · rw [if_neg h1, (nz_eq_some (n := _)).mpr ⟨rfl, h1⟩]

theorem unsignedLen_not_digit {c : Byte} (r : List Byte) (h : isDigit c = false) : unsignedLen (c :: r) = 0 := by
  have hp : ∀ m1 m2 p, prefixedLen m1 m2 p (c :: r) = 0 := fun _ _ _ =>
    lead1_of_not (decide_eq_false fun e => by rw [e] at h; cases h) _ r
  have hf : floatLen (c :: r) = 0 := by
    simp only [floatLen, seq, digitsRun, h, Bool.false_eq_true, if_false, if_true]
  unfold unsignedLen alt
  rw [hp, hp, hp, hf]; rfl

theorem scanNumber_eq (s : List Byte) : scanNumber s = nz (numberLen s) := by
  unfold scanNumber numberLen alt
  split
  · rename_i rest
    rw [scanUnsigned_eq, unsignedLen_not_digit rest (by decide)]
    by_cases h : unsignedLen rest = 0 <;> simp [lead1, h, nz]
  · rename_i h
    rw [scanUnsigned_eq]
    cases s with
    | nil => simp [lead1]
    | cons c r =>
      rw [lead1_of_not (decide_eq_false fun e => h r (by rw [e]))]; rfl

theorem digitsRun_short (p : Byte → Bool) : Short (digitsRun p) := digitsRun_eq p ▸ (digitsTail_short p).lead
theorem fracLen_short : Short fracLen := fracLen_eq ▸ (digitsRun_short isDigit).lead1
theorem expLen_short : Short expLen :=
  expLen_eq ▸ ((digitsRun_short isDigit).lead1.alt (digitsRun_short isDigit)).lead1
theorem prefixedLen_short {m1 m2 : Byte} {p : Byte → Bool} : Short (prefixedLen m1 m2 p) := (digitsRun_short p).lead1.lead1
theorem floatLen_short : Short floatLen := ((digitsRun_short isDigit).seq fracLen_short).seq expLen_short
theorem unsignedLen_short : Short unsignedLen :=
  prefixedLen_short.alt (prefixedLen_short.alt (prefixedLen_short.alt floatLen_short))
theorem numberLen_short : Short numberLen := unsignedLen_short.lead1.alt unsignedLen_short

theorem scanNumber_bounds {s : List Byte} {n : Nat} (h : scanNumber s = some n) : 1 ≤ n ∧ n ≤ s.length :=
  nz_bounds numberLen_short (scanNumber_eq s ▸ h)

/-! ### white space, identifiers, line comments -/

theorem scanWs_eq (s : List Byte) : scanWs s = nz (spanLen isSpace s) := rfl

theorem scanWs_bounds {s : List Byte} {n : Nat} (h : scanWs s = some n) : 1 ≤ n ∧ n ≤ s.length :=
  nz_bounds (spanLen_short isSpace) (scanWs_eq s ▸ h)

theorem scanWs_cons (c : Byte) (r : List Byte) :
    scanWs (c :: r) = if isSpace c then some (spanLen isSpace r + 1) else none := by
  simp only [scanWs, spanLen]; split <;> simp

theorem scanWs_eq_none_iff (c : Byte) (r : List Byte) : scanWs (c :: r) = none ↔ isSpace c = false := by
  rw [scanWs_cons]; split <;> simp [*]

def identLen : List Byte → Nat := lead isIdStart (spanLen isIdCont)

theorem scanIdent_eq (s : List Byte) : scanIdent s = nz (identLen s) := by
  cases s with
  | nil => rfl
  | cons c r => by_cases hc : isIdStart c = true <;> simp [scanIdent, identLen, lead, nz, hc, Nat.add_comm]

theorem scanIdent_bounds {s : List Byte} {n : Nat} (h : scanIdent s = some n) : 1 ≤ n ∧ n ≤ s.length :=
  nz_bounds (spanLen_short isIdCont).lead (scanIdent_eq s ▸ h)

def lineLen : List Byte → Nat := lead1 (· = 47) (lead (· = 47) (spanLen fun c => !(c = 10 || c = 13)))

theorem scanLineComment_eq (s : List Byte) : scanLineComment s = nz (lineLen s) := by
  unfold scanLineComment lineLen
  split
  · simp [lead1, lead, nz]; omega
  · rename_i h
    match s with
    | [] => rfl
    | [c] => simp [lead1, lead, nz]
    | c :: d :: r =>
      by_cases hc : c = 47
      · have hd : d ≠ 47 := fun e => h r (by rw [hc, e])
        simp [lead1, lead, nz, hd]
      · simp [lead1, nz, hc]

theorem scanLineComment_bounds {s : List Byte} {n : Nat} (h : scanLineComment s = some n) : 1 ≤ n ∧ n ≤ s.length :=
  nz_bounds (spanLen_short _).lead.lead1 (scanLineComment_eq s ▸ h)

/-! ### block comments, strings, byte literals -/

theorem findByte_spec {a : Byte} {s : List Byte} {k : Nat} (h : findByte a s = some k) :
    k + 1 ≤ s.length ∧ ∀ X, findByte a (s.take (k + 1) ++ X) = some k := by
  fun_induction findByte a s generalizing k with
  | case1 => cases h
  | case2 rest =>
    cases h
    exact ⟨Nat.succ_le_succ (Nat.zero_le _), fun X => if_pos rfl⟩
  | case3 x rest e ih =>
    obtain ⟨j, hj, rfl⟩ := Option.map_eq_some_iff.mp h
    obtain ⟨h1, h2⟩ := ih hj
    exact ⟨Nat.succ_le_succ h1, fun X => by rw [List.take_succ_cons, List.cons_append, findByte, if_neg e, h2 X]; rfl⟩

theorem findPair_spec {a b : Byte} {s : List Byte} {k : Nat} (h : findPair a b s = some k) :
    k + 2 ≤ s.length ∧ ∀ X, findPair a b (s.take (k + 2) ++ X) = some k := by
  fun_induction findPair a b s generalizing k with
  | case1 => cases h
  | case2 => cases h
  | case3 x y rest e =>
    cases h
    exact ⟨Nat.succ_le_succ (Nat.succ_le_succ (Nat.zero_le _)), fun X => if_pos e⟩
  | case4 x y rest e ih =>
    obtain ⟨j, hj, rfl⟩ := Option.map_eq_some_iff.mp h
    obtain ⟨h1, h2⟩ := ih hj
    refine ⟨Nat.succ_le_succ h1, fun X => ?_⟩
    have := h2 X
    rw [List.take_succ_cons, List.cons_append] at this
    rw [List.take_succ_cons, List.take_succ_cons, List.cons_append, List.cons_append, findPair, if_neg e, this]; rfl

theorem scanBlockComment_spec {s : List Byte} {n : Nat} (h : scanBlockComment s = some n) :
    (1 ≤ n ∧ n ≤ s.length) ∧ ∀ X, scanBlockComment (s.take n ++ X) = some n := by
  unfold scanBlockComment at h
  split at h
  · rename_i rest
    obtain ⟨k, hk, rfl⟩ := Option.map_eq_some_iff.mp h
    obtain ⟨h1, h2⟩ := findPair_spec hk
    exact ⟨⟨Nat.succ_le_succ (Nat.zero_le _), Nat.succ_le_succ (Nat.succ_le_succ h1)⟩,
      fun X => by rw [List.take_succ_cons, List.take_succ_cons, List.cons_append, List.cons_append, scanBlockComment, h2 X]; rfl⟩
  · cases h

theorem scanString_spec {s : List Byte} {n : Nat} (h : scanString s = some n) :
    (1 ≤ n ∧ n ≤ s.length) ∧ ∀ X, scanString (s.take n ++ X) = some n := by
  unfold scanString at h
  split at h
  · rename_i rest
    obtain ⟨k, hk, rfl⟩ := Option.map_eq_some_iff.mp h
    obtain ⟨h1, h2⟩ := findByte_spec hk
    exact ⟨⟨Nat.succ_le_succ (Nat.zero_le _), Nat.succ_le_succ h1⟩,
      fun X => by rw [List.take_succ_cons, List.cons_append, scanString, h2 X]; rfl⟩
  · cases h

theorem byteAlt1_shape (rest : List Byte) (h : byteAlt1 rest = true) :
    ∃ h1 h2 X, rest = 92 :: 120 :: h1 :: h2 :: 39 :: X ∧ (isHex h1 && isHex h2) = true := by
  revert h
  fun_cases byteAlt1 rest with
  | case1 h1 h2 X => exact fun h => ⟨h1, h2, X, rfl, h⟩
  | case2 => exact nofun

theorem byteAlt2_shape (rest : List Byte) (h : byteAlt2 rest = true) : ∃ c X, rest = 92 :: c :: 39 :: X ∧ c ≠ 10 := by
  revert h
  fun_cases byteAlt2 rest with
  | case1 c X => exact fun h => ⟨c, X, rfl, by simpa using h⟩
  | case2 => exact nofun

theorem byteAlt3_shape (rest : List Byte) (h : byteAlt3 rest = true) : ∃ c X, rest = c :: 39 :: X ∧ c ≤ 127 := by
  revert h
  fun_cases byteAlt3 rest with
  | case1 c X => exact fun h => ⟨c, X, rfl, by simpa using h⟩
  | case2 => exact nofun

theorem scanByte_bounds {s : List Byte} {n : Nat} (h : scanByte s = some n) : 1 ≤ n ∧ n ≤ s.length := by
  revert h
  fun_cases scanByte s with
  | case1 rest a1 => obtain ⟨_, _, _, rfl, _⟩ := byteAlt1_shape _ a1; rintro ⟨⟩; simp
  | case2 rest _ a2 => obtain ⟨_, _, rfl, _⟩ := byteAlt2_shape _ a2; rintro ⟨⟩; simp
  | case3 rest _ _ a3 => obtain ⟨_, _, rfl, _⟩ := byteAlt3_shape _ a3; rintro ⟨⟩; simp
  | case4 => exact nofun
  | case5 => exact nofun

/-! ### operators -/

theorem isPrefixOf_iff {lit s : List Byte} : isPrefixOf lit s = true ↔ s.take lit.length = lit := by
  fun_induction isPrefixOf lit s with
  | case1 s => simp
  | case2 a as => simp
  | case3 a as b bs ih =>
    rw [Bool.and_eq_true, decide_eq_true_eq, ih, List.length_cons, List.take_succ_cons, List.cons.injEq]
    exact and_congr_left' eq_comm

theorem isPrefixOf_length {lit s : List Byte} (h : isPrefixOf lit s = true) : lit.length ≤ s.length := by
  have := congrArg List.length (isPrefixOf_iff.mp h)
  rw [List.length_take] at this
  exact this ▸ Nat.min_le_right _ _

/-- `hT` is `TablesOk T` (Proofs/Lexer.lean) at `ops = T.ops` -/
theorem scanOp_bounds {ops : List (List Byte × List Byte)} {s tok : List Byte}
    (hT : ∀ p ∈ ops, p.1 = p.2 ∧ p.1 ≠ []) (h : scanOp ops s = some tok) : 1 ≤ tok.length ∧ tok.length ≤ s.length := by
  fun_induction scanOp ops s with
  | case1 => cases h
  | case2 lit t ops s hp =>
    cases h
    obtain ⟨rfl, ne⟩ : lit = tok ∧ lit ≠ [] := hT _ List.mem_cons_self
    exact ⟨List.length_pos_iff.mpr ne, isPrefixOf_length hp⟩
  | case3 lit t ops s hp ih => exact ih (fun p hp => hT p (List.mem_cons_of_mem _ hp)) h

end FerretVerif.Lexer
