/-
  Which ids the draws receive from the literal counters (C14): from a shared counter the position in the
  schedule, from a module's own per-file counter the position among that module's draws.
-/
import FerretVerif.Model.LitCounter

namespace FerretVerif.LitCounter

/-- from the `(List.range n).map (· + 1)` of the statements in `Props/C14` to `List.range'`, which the lemmas here use
    because its recursion (`range' s (n + 1) = s :: range' (s + 1) n`) is the counters' -/
theorem map_succ_range (n : Nat) : (List.range n).map (· + 1) = List.range' 1 n := by
  rw [List.range_eq_range', ← List.range'_succ_left]

theorem assign_eq_zipIdx (c : Nat) (s : Sched) : assign c s = s.zipIdx (c + 1) := by
  fun_induction assign c s with
  | case1 => rfl
  | case2 c m rest ih => rw [ih]; rfl

theorem assignPerFile_ids (m : Nat) (s : Sched) (seen : List (Nat × Nat)) :
    ((assignPerFile seen s).filter (·.1 == m)).map (·.2) =
      List.range' ((seen.filter (·.1 == m)).length + 1) (s.filter (· == m)).length := by
  fun_induction assignPerFile seen s with
  | case1 => rfl
  | case2 seen x rest k ih =>
    rw [List.filter_cons, List.filter_cons]
    -- a draw of `m` gets the next id and counts as seen from then on; a draw of another module changes neither side
    by_cases hx : (x == m) = true
    · cases eq_of_beq hx
      rw [if_pos hx, if_pos hx, List.map_cons, ih, List.filter_cons, if_pos hx]
      rfl
    · rw [if_neg hx, if_neg hx, ih, List.filter_cons, if_neg hx]

end FerretVerif.LitCounter
