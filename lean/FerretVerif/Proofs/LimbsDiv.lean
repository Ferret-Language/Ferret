/-
  Bit-serial long division (ferret_div_mod_u_limbs), the signed wrappers, exponentiation. The division loop is in the
  state `divState` after each bit, and one `divStep` takes it from bit `k + 1` to bit `k`. A signed operation works on
  magnitudes (`abs_eq`); `ite_neg_ofNat` with `signed_mul`, `signed_tdiv`, `signed_tmod` puts the sign back. `powLoop_eq`
  holds for any `mulf` that multiplies canonical lists, which `mul_ofNat` and `mulS_ofNat` say of `mul` and `mulS`.
-/
import FerretVerif.Proofs.LimbsBase

namespace FerretVerif.Limbs

/-! ### one-bit left shift with carry chain -/

theorem shl1_limb (w : Nat) (hw : 0 < w) (x c : Nat) (hc : c ≤ 1) :
    (x * 2) % 2 ^ w ||| c = (2 * x + c) % 2 ^ w ∧ x / 2 ^ (w - 1) = (2 * x + c) / 2 ^ w := by
  have hc2 : c < 2 := Nat.lt_succ_of_le hc
  -- modulo `2^w = 2 * 2^(w-1)` the sum `c + 2 * x` splits into its low bit `c` and `x` modulo `2^(w-1)`
  rw [two_pow_even w hw, Nat.mul_comm x 2, Nat.mul_mod_mul_left, Nat.add_comm (2 * x) c, mod_mul_split hc2,
    ← Nat.div_div_eq_div_mul, Nat.add_mul_div_left _ _ (by decide), Nat.div_eq_of_lt hc2, Nat.zero_add,
    lor_eq_add (k := 1) (Nat.mul_mod_right _ _) hc2, Nat.add_comm]
  exact ⟨rfl, rfl⟩

theorem shl1c_eq (w : Nat) (hw : 0 < w) (r : List Nat) (c : Nat) (hc : c ≤ 1) (hr : Wf (2 ^ w) r) :
    shl1c w r c = ofNat (2 ^ w) r.length (2 * val (2 ^ w) r + c) := by
  induction r generalizing c with
  | nil => rfl
  | cons x xs ih =>
    obtain ⟨e1, e2⟩ := shl1_limb w hw x c hc
    have hx : x / 2 ^ (w - 1) ≤ 1 :=
      Nat.le_of_lt_succ (Nat.div_lt_of_lt_mul (Nat.mul_comm _ _ ▸ two_pow_even w hw ▸ hr.head))
    have e : 2 * val (2 ^ w) (x :: xs) + c = (2 * x + c) + 2 ^ w * (2 * val (2 ^ w) xs) := by
      rw [val_cons, Nat.mul_add, Nat.mul_left_comm, Nat.add_right_comm]
    rw [shl1c, e1, List.length_cons, e, ofNat_add_mul _ (Nat.two_pow_pos w), ih _ hx hr.tail, e2]

/-! ### bit access -/

theorem bit_of_mod {w j : Nat} (X : Nat) (hj : j < w) : (X % 2 ^ w) / 2 ^ j % 2 = X / 2 ^ j % 2 := by
  rw [← Nat.pow_sub_mul_pow 2 (Nat.le_of_lt hj), Nat.mul_comm, Nat.mod_mul_right_div_self]
  exact Nat.mod_mod_of_dvd _ (Nat.dvd_of_pow_dvd (by omega : 1 ≤ w - j) (Nat.dvd_refl _))

theorem getBit_eq (w : Nat) (hw : 0 < w) (v : List Nat) (hv : Wf (2 ^ w) v) (bit : Nat) :
    getBit w v bit = (val (2 ^ w) v / 2 ^ bit) % 2 := by
  rw [getBit, limb_eq (2 ^ w) (Nat.two_pow_pos w) v hv, bit_of_mod _ (Nat.mod_lt _ hw),
    Nat.div_div_eq_div_mul, ← pow_bit_split]

theorem setBit_eq (w : Nat) (hw : 0 < w) (v : List Nat) (hv : Wf (2 ^ w) v) (bit : Nat)
    (hbit : bit < v.length * w) :
    setBit w v bit = ofNat (2 ^ w) v.length (val (2 ^ w) v ||| 2 ^ bit) := by
  have hj : bit / w < v.length := Nat.div_lt_of_lt_mul (Nat.mul_comm _ _ ▸ hbit)
  refine eq_ofNat_of_limbs List.length_set fun i _ => ?_
  rw [setBit, limb_set _ _ hj, ← Nat.pow_mul, Nat.or_div_two_pow, Nat.or_mod_two_pow, two_pow_digit w bit i hw,
    Nat.pow_mul, ← limb_eq _ (Nat.two_pow_pos w) v hv]
  split
  · next h => rw [h]
  · exact (Nat.or_zero _).symm

/-! ### one step of the restoring division -/

/-- state of the bit loop of ferret_div_mod_u_limbs once the bits `≥ k` of the numerator `N` have been consumed:
    the quotient bits found so far, in place, and the remainder of the consumed part -/
def divState (w n N D k : Nat) : List Nat × List Nat :=
  (ofNat (2 ^ w) n (N / 2 ^ k / D * 2 ^ k), ofNat (2 ^ w) n (N / 2 ^ k % D))

/-- `P` is the part of the numerator consumed so far, `b` the next bit: the doubled remainder `2 * (P % D) + b` is
    below `2 * D`, so the divisor comes off at most once -/
theorem div_step_ge {D P b : Nat} (hD : 0 < D) (hb : b ≤ 1) (h : D ≤ 2 * (P % D) + b) :
    (2 * P + b) / D = 2 * (P / D) + 1 ∧ (2 * P + b) % D = 2 * (P % D) + b - D := by
  have hP := Nat.mod_add_div P D
  have hlt := Nat.mod_lt P hD
  rw [Nat.div_mod_unique hD, Nat.mul_add, Nat.mul_left_comm]
  omega

theorem div_step_lt {D P b : Nat} (hD : 0 < D) (h : ¬ D ≤ 2 * (P % D) + b) :
    (2 * P + b) / D = 2 * (P / D) ∧ (2 * P + b) % D = 2 * (P % D) + b := by
  have hP := Nat.mod_add_div P D
  rw [Nat.div_mod_unique hD, Nat.mul_left_comm]
  omega

/-- the "shift then or-in the numerator bit" of the C loop is a shift with carry-in -/
theorem shl1c_set_low (w : Nat) (r : List Nat) (b : Nat) (hb : b ≤ 1) :
    (if b = 1 then (shl1c w r 0).set 0 (limb (shl1c w r 0) 0 ||| 1) else shl1c w r 0) = shl1c w r b := by
  rcases Nat.eq_zero_or_pos b with h0 | h1
  · subst h0; simp
  · have : b = 1 := by omega
    subst this
    cases r with
    | nil => simp [shl1c]
    | cons x xs => simp [shl1c, limb_cons_zero]

/-- the C loop body on a canonical pair; `hQ`, `hR`: neither list wraps -/
theorem divStep_ofNat (w : Nat) (hw : 0 < w) (numer denom : List Nat) (hd : Wf (2 ^ w) denom) (n : Nat)
    (hn : denom.length = n) (Q R k : Nat) (hk : k < n * w) (hQ : Q < (2 ^ w) ^ n)
    (hR : 2 * R + getBit w numer k < (2 ^ w) ^ n) :
    divStep w numer denom (ofNat (2 ^ w) n Q, ofNat (2 ^ w) n R) k =
      if val (2 ^ w) denom ≤ 2 * R + getBit w numer k then
        (ofNat (2 ^ w) n (Q ||| 2 ^ k), ofNat (2 ^ w) n (2 * R + getBit w numer k - val (2 ^ w) denom))
      else (ofNat (2 ^ w) n Q, ofNat (2 ^ w) n (2 * R + getBit w numer k)) := by
  subst hn
  have hB := Nat.two_pow_pos w
  have hb : getBit w numer k ≤ 1 := Nat.le_of_lt_succ (Nat.mod_lt _ (by decide))
  have hRlt : R < (2 ^ w) ^ denom.length :=
    Nat.lt_of_le_of_lt (Nat.le_trans (Nat.le_mul_of_pos_left R (by decide)) (Nat.le_add_right _ _)) hR
  simp only [divStep]
  rw [shl1c_set_low w _ _ hb, shl1c_eq w hw _ _ hb (ofNat_wf _ hB), ofNat_length, val_ofNat_of_lt hRlt,
    cmpU_eq (2 ^ w) _ denom ofNat_length (ofNat_wf _ hB) hd, val_ofNat_of_lt hR]
  generalize getBit w numer k = b at *
  by_cases hc : val (2 ^ w) denom ≤ 2 * R + b
  · have hne : (compare (2 * R + b) (val (2 ^ w) denom) != .lt) = true := by
      rw [bne_iff_ne]; exact Nat.compare_ne_lt.2 hc
    rw [hne, if_pos rfl, if_pos hc, sub_eq _ hB _ denom ofNat_length (ofNat_wf _ hB) hd, ofNat_length,
      val_ofNat_of_lt hR, setBit_eq w hw _ (ofNat_wf _ hB) k (by rw [ofNat_length]; exact hk), ofNat_length,
      val_ofNat_of_lt hQ]
    congr 1
    apply ofNat_congr
    rw [Nat.sub_add_comm hc, Nat.add_mod_right]
  · have hlt : (compare (2 * R + b) (val (2 ^ w) denom) != .lt) = false := by
      rw [Nat.compare_eq_lt.2 (Nat.lt_of_not_le hc)]; rfl
    rw [hlt, if_neg Bool.false_ne_true, if_neg hc]

theorem divStep_state (w : Nat) (hw : 0 < w) (numer denom : List Nat) (hl : numer.length = denom.length)
    (hn : Wf (2 ^ w) numer) (hd : Wf (2 ^ w) denom) (hd0 : val (2 ^ w) denom ≠ 0)
    (k : Nat) (hk : k < numer.length * w) :
    divStep w numer denom (divState w numer.length (val (2 ^ w) numer) (val (2 ^ w) denom) (k + 1)) k
      = divState w numer.length (val (2 ^ w) numer) (val (2 ^ w) denom) k := by
  have hNlt := val_lt hn
  have hbit := getBit_eq w hw numer hn k
  generalize val (2 ^ w) numer = N at *
  generalize hD : val (2 ^ w) denom = D at *
  -- `N / 2^k = 2 * P + b` with `P` the part consumed before and `b` the bit read now
  have hP : N / 2 ^ k = 2 * (N / 2 ^ (k + 1)) + getBit w numer k := by
    rw [hbit, Nat.pow_succ, ← Nat.div_div_eq_div_mul, Nat.div_add_mod]
  have hb : getBit w numer k ≤ 1 := Nat.le_of_lt_succ (Nat.mod_lt _ (by decide))
  have hQ : N / 2 ^ (k + 1) / D * 2 ^ (k + 1) < (2 ^ w) ^ numer.length :=
    Nat.lt_of_le_of_lt (Nat.le_trans (Nat.mul_le_mul_right _ (Nat.div_le_self _ _)) (Nat.div_mul_le_self _ _)) hNlt
  have hR : 2 * (N / 2 ^ (k + 1) % D) + getBit w numer k < (2 ^ w) ^ numer.length :=
    Nat.lt_of_le_of_lt (Nat.le_trans (Nat.add_le_add_right (Nat.mul_le_mul_left 2 (Nat.mod_le _ _)) _)
      (hP ▸ Nat.div_le_self N (2 ^ k))) hNlt
  -- the quotient bits found so far lie above bit `k`, so setting bit `k` adds `2^k`
  rw [divState, divState, hP, divStep_ofNat w hw numer denom hd _ hl.symm _ _ k hk hQ hR, hD,
    lor_eq_add (Nat.mul_mod_left _ _) (Nat.pow_lt_pow_right (by omega) (Nat.lt_succ_self k))]
  generalize N / 2 ^ (k + 1) = P at *
  generalize getBit w numer k = b at *
  split
  · next hc =>
    obtain ⟨e1, e2⟩ := div_step_ge (Nat.pos_of_ne_zero hd0) hb hc
    rw [e1, e2, Nat.add_mul, Nat.one_mul, Nat.pow_succ, Nat.mul_comm (2 ^ k) 2, ← Nat.mul_assoc,
      Nat.mul_comm 2 (P / D)]
  · next hc =>
    obtain ⟨e1, e2⟩ := div_step_lt (Nat.pos_of_ne_zero hd0) hc
    rw [e1, e2, Nat.pow_succ, Nat.mul_comm (2 ^ k) 2, ← Nat.mul_assoc, Nat.mul_comm 2 (P / D)]

/-! ### the bit loop -/

theorem divLoop_state (w : Nat) (hw : 0 < w) (numer denom : List Nat) (hl : numer.length = denom.length)
    (hn : Wf (2 ^ w) numer) (hd : Wf (2 ^ w) denom) (hd0 : val (2 ^ w) denom ≠ 0)
    (m : Nat) (hm : m ≤ numer.length * w) :
    (List.range m).reverse.foldl (divStep w numer denom)
        (divState w numer.length (val (2 ^ w) numer) (val (2 ^ w) denom) m)
      = divState w numer.length (val (2 ^ w) numer) (val (2 ^ w) denom) 0 := by
  induction m with
  | zero => rfl
  | succ m ih =>
    rw [List.range_succ, List.reverse_append, List.reverse_singleton, List.singleton_append, List.foldl_cons,
      divStep_state w hw numer denom hl hn hd hd0 m hm, ih (Nat.le_of_succ_le hm)]

theorem divModU_eq (w : Nat) (hw : 0 < w) (numer denom : List Nat) (hl : numer.length = denom.length)
    (hn : Wf (2 ^ w) numer) (hd : Wf (2 ^ w) denom) (hd0 : val (2 ^ w) denom ≠ 0) :
    divModU w numer denom = (true, ofNat (2 ^ w) numer.length (val (2 ^ w) numer / val (2 ^ w) denom),
      ofNat (2 ^ w) numer.length (val (2 ^ w) numer % val (2 ^ w) denom)) := by
  have hz : isZero denom = false := (isZero_eq_false_iff (2 ^ w) (Nat.two_pow_pos w) denom).2 hd0
  have hlt := val_lt hn
  rw [← Nat.pow_mul, Nat.mul_comm w] at hlt
  have h0 := divLoop_state w hw numer denom hl hn hd hd0 _ (Nat.le_refl _)
  rw [divState, Nat.div_eq_of_lt hlt, Nat.zero_div, Nat.zero_mul, Nat.zero_mod, ofNat_zero] at h0
  simp only [divModU, hz, Bool.false_eq_true, if_false]
  rw [h0, divState, Nat.pow_zero, Nat.div_one, Nat.mul_one]

theorem divModU_zero (w : Nat) (numer denom : List Nat) (hd0 : val (2 ^ w) denom = 0) :
    divModU w numer denom = (false, zero numer.length, zero numer.length) := by
  have hz : isZero denom = true := (isZero_iff (2 ^ w) (Nat.two_pow_pos w) denom).2 hd0
  simp only [divModU, hz, if_true]

theorem divUw_val (w : Nat) (hw : 0 < w) (a b : List Nat) (hl : a.length = b.length)
    (ha : Wf (2 ^ w) a) (hb : Wf (2 ^ w) b) (hb0 : val (2 ^ w) b ≠ 0) :
    val (2 ^ w) (divUw w a b) = val (2 ^ w) a / val (2 ^ w) b := by
  rw [divUw, divModU_eq w hw a b hl ha hb hb0]
  exact val_ofNat_of_lt (Nat.lt_of_le_of_lt (Nat.div_le_self _ _) (val_lt ha))

theorem modUw_val (w : Nat) (hw : 0 < w) (a b : List Nat) (hl : a.length = b.length)
    (ha : Wf (2 ^ w) a) (hb : Wf (2 ^ w) b) (hb0 : val (2 ^ w) b ≠ 0) :
    val (2 ^ w) (modUw w a b) = val (2 ^ w) a % val (2 ^ w) b := by
  rw [modUw, divModU_eq w hw a b hl ha hb hb0]
  exact val_ofNat_of_lt (Nat.lt_of_le_of_lt (Nat.mod_le _ _) (val_lt ha))

theorem divUw_zero (w : Nat) (a b : List Nat) (hb0 : val (2 ^ w) b = 0) : divUw w a b = zero a.length := by
  unfold divUw; rw [divModU_zero w a b hb0]

theorem modUw_zero (w : Nat) (a b : List Nat) (hb0 : val (2 ^ w) b = 0) : modUw w a b = zero a.length := by
  unfold modUw; rw [divModU_zero w a b hb0]

/-! ### magnitude and comparison of two's complement values -/

/-- the magnitude of the minimum value, `M/2`, is still representable unsigned -/
theorem abs_eq (B : Nat) (hB : 1 < B) (v : List Nat) (hv : Wf B v) :
    abs B v = (ofNat B v.length (toInt B v).natAbs, decide (toInt B v < 0)) := by
  have hlt := val_lt hv
  unfold abs
  cases hneg : isNeg B v with
  | true =>
    rw [if_pos rfl, toInt_of_isNeg hneg, neg_eq B hB v hv, decide_eq_true (by omega)]
    congr 2
    omega
  | false =>
    rw [if_neg Bool.false_ne_true, toInt_of_not_isNeg hneg, Int.natAbs_natCast, ofNat_val B v hv,
      decide_eq_false (by omega)]

theorem natAbs_toInt_lt (w : Nat) (hw : 0 < w) (l : List Nat) (h : Wf (2 ^ w) l) :
    (toInt (2 ^ w) l).natAbs < (2 ^ w) ^ l.length := by
  obtain ⟨b1, b2⟩ := toInt_bounds (two_pow_even w hw) (Nat.two_pow_pos _) h
  have := Nat.pow_pos (n := l.length) (Nat.two_pow_pos w)
  omega

theorem compare_sub_natCast (a b : Nat) (c : Int) : compare ((a : Int) - c) ((b : Int) - c) = compare a b := by
  rcases Nat.lt_trichotomy a b with h | h | h
  · rw [Nat.compare_eq_lt.2 h, Int.compare_eq_lt.2 (by omega)]
  · rw [Nat.compare_eq_eq.2 h, Int.compare_eq_eq.2 (by omega)]
  · rw [Nat.compare_eq_gt.2 h, Int.compare_eq_gt.2 (by omega)]

theorem cmpS_eq (B : Nat) (a b : List Nat) (hl : a.length = b.length) (ha : Wf B a) (hb : Wf B b) :
    cmpS B a b = compare (toInt B a) (toInt B b) := by
  unfold cmpS
  cases hna : isNeg B a <;> cases hnb : isNeg B b
  · rw [toInt_of_not_isNeg hna, toInt_of_not_isNeg hnb, ← Int.sub_zero (val B a : Int),
      ← Int.sub_zero (val B b : Int), compare_sub_natCast]
    exact cmpU_eq B a b hl ha hb
  · have h1 := toInt_nonneg hna
    have h2 := toInt_lt_zero hb hnb
    exact (Int.compare_eq_gt.2 (by omega)).symm
  · have h1 := toInt_lt_zero ha hna
    have h2 := toInt_nonneg hnb
    exact (Int.compare_eq_lt.2 (by omega)).symm
  · rw [toInt_of_isNeg hna, toInt_of_isNeg hnb, hl, compare_sub_natCast]
    exact cmpU_eq B a b hl ha hb

/-! ### signed multiply / divide / modulo: magnitudes, then the sign put back

`abs_eq` gives the sign of an operand as `decide (x < 0)`, and the model tests `sa != sb` for the sign of a product or
quotient: the sign lemmas are stated in those terms. -/

theorem ite_neg_ofNat (B : Nat) (hB : 1 < B) (n m : Nat) (s : Bool) :
    (if s then neg B (ofNat B n m) else ofNat B n m) = ofInt B n (if s then -(m : Int) else m) := by
  cases s
  · exact (ofInt_natCast B n m).symm
  · rw [if_pos rfl, if_pos rfl, ← ofInt_natCast, neg_ofInt B hB]

theorem int_sign_natAbs (x : Int) : (if decide (x < 0) = true then -(x.natAbs : Int) else x.natAbs) = x := by
  by_cases h : x < 0
  · rw [if_pos (decide_eq_true h)]; omega
  · rw [if_neg (by rw [decide_eq_false h]; exact Bool.false_ne_true)]; omega

theorem signed_mul (sa sb : Bool) (a b : Nat) :
    (if (sa != sb) = true then -((a * b : Nat) : Int) else (a * b : Nat))
      = (if sa = true then -(a : Int) else a) * (if sb = true then -(b : Int) else b) := by
  cases sa <;> cases sb <;> simp [Int.mul_neg, Int.neg_mul]

theorem signed_tdiv (sa sb : Bool) (a b : Nat) :
    (if (sa != sb) = true then -((a / b : Nat) : Int) else (a / b : Nat))
      = Int.tdiv (if sa = true then -(a : Int) else a) (if sb = true then -(b : Int) else b) := by
  cases sa <;> cases sb <;> simp

theorem signed_tmod (sa sb : Bool) (a b : Nat) :
    (if sa = true then -((a % b : Nat) : Int) else (a % b : Nat))
      = Int.tmod (if sa = true then -(a : Int) else a) (if sb = true then -(b : Int) else b) := by
  cases sa <;> cases sb <;> simp [Int.tmod_eq_emod_of_nonneg (Int.natCast_nonneg a)]

theorem mulS_eq (B : Nat) (hB : 1 < B) (a b : List Nat) (hl : a.length = b.length) (ha : Wf B a) (hb : Wf B b) :
    mulS B a b = ofInt B a.length (toInt B a * toInt B b) := by
  simp only [mulS]
  rw [abs_eq B hB a ha, abs_eq B hB b hb, ← hl]
  simp only []  -- the `match` on a pair
  rw [mul_ofNat B (by omega), ite_neg_ofNat B hB, signed_mul, int_sign_natAbs, int_sign_natAbs]

theorem mulS_ofNat (B : Nat) (hB : 1 < B) (n x y : Nat) :
    mulS B (ofNat B n x) (ofNat B n y) = ofNat B n (x * y) := by
  have hB0 : 0 < B := by omega
  have ex := toInt_emod B (ofNat B n x) (ofNat_wf B hB0)
  have ey := toInt_emod B (ofNat B n y) (ofNat_wf B hB0)
  rw [ofNat_length, val_ofNat, Int.natCast_emod] at ex ey
  rw [mulS_eq B hB _ _ (by rw [ofNat_length, ofNat_length]) (ofNat_wf B hB0) (ofNat_wf B hB0),
    ofNat_length, ← ofInt_natCast B n (x * y)]
  apply ofInt_congr
  rw [Int.mul_emod, ex, ey, ← Int.mul_emod, Int.natCast_mul]

/-- MIN / -1 wraps to MIN: that is `ofInt`. Division by zero yields 0: that is `Int.tdiv`. -/
theorem divS_eq (w : Nat) (hw : 0 < w) (a b : List Nat) (hl : a.length = b.length)
    (ha : Wf (2 ^ w) a) (hb : Wf (2 ^ w) b) :
    divS w a b = ofInt (2 ^ w) a.length (Int.tdiv (toInt (2 ^ w) a) (toInt (2 ^ w) b)) := by
  have hB1 : 1 < 2 ^ w := Nat.one_lt_two_pow (by omega)
  have hB := Nat.two_pow_pos w
  have hav := val_ofNat_of_lt (natAbs_toInt_lt w hw a ha)
  have hbv := val_ofNat_of_lt (hl ▸ natAbs_toInt_lt w hw b hb)
  simp only [divS]
  rw [abs_eq _ hB1 a ha, abs_eq _ hB1 b hb, ← hl]
  simp only []
  by_cases h0 : (toInt (2 ^ w) b).natAbs = 0
  · rw [divModU_zero w _ _ (hbv.trans h0)]
    simp only []
    rw [ofNat_length, ← ofNat_zero (2 ^ w), ite_neg_ofNat _ hB1, ← Nat.div_zero (toInt (2 ^ w) a).natAbs, ← h0,
      signed_tdiv, int_sign_natAbs, int_sign_natAbs]
  · rw [divModU_eq w hw _ _ (by rw [ofNat_length, ofNat_length]) (ofNat_wf _ hB) (ofNat_wf _ hB)
      (by rw [hbv]; exact h0)]
    simp only []
    rw [ofNat_length, hav, hbv, ite_neg_ofNat _ hB1, signed_tdiv, int_sign_natAbs, int_sign_natAbs]

/-- not for a zero divisor: the runtime returns 0 (`modS_zero`), `Int.tmod a 0 = a` -/
theorem modS_eq (w : Nat) (hw : 0 < w) (a b : List Nat) (hl : a.length = b.length)
    (ha : Wf (2 ^ w) a) (hb : Wf (2 ^ w) b) (hb0 : toInt (2 ^ w) b ≠ 0) :
    modS w a b = ofInt (2 ^ w) a.length (Int.tmod (toInt (2 ^ w) a) (toInt (2 ^ w) b)) := by
  have hB1 : 1 < 2 ^ w := Nat.one_lt_two_pow (by omega)
  have hB := Nat.two_pow_pos w
  have hav := val_ofNat_of_lt (natAbs_toInt_lt w hw a ha)
  have hbv := val_ofNat_of_lt (hl ▸ natAbs_toInt_lt w hw b hb)
  simp only [modS]
  rw [abs_eq _ hB1 a ha, abs_eq _ hB1 b hb, ← hl]
  simp only []
  rw [divModU_eq w hw _ _ (by rw [ofNat_length, ofNat_length]) (ofNat_wf _ hB) (ofNat_wf _ hB)
    (by rw [hbv]; omega)]
  simp only []
  rw [ofNat_length, hav, hbv, ite_neg_ofNat _ hB1,
    signed_tmod _ (decide (toInt (2 ^ w) b < 0)), int_sign_natAbs, int_sign_natAbs]

theorem modS_val (w : Nat) (hw : 0 < w) (a b : List Nat) (hl : a.length = b.length)
    (ha : Wf (2 ^ w) a) (hb : Wf (2 ^ w) b) (hb0 : toInt (2 ^ w) b ≠ 0) :
    val (2 ^ w) (modS w a b)
      = ((Int.tmod (toInt (2 ^ w) a) (toInt (2 ^ w) b)) % (((2 ^ w) ^ a.length : Nat) : Int)).toNat := by
  rw [modS_eq w hw a b hl ha hb hb0, val_ofInt _ (Nat.two_pow_pos w)]

/-! ### zero divisors

`divS_zero` and `modS_zero` need neither equal lengths nor `Wf a`, which `divS_eq` asks for; `modS_eq` excludes the zero
divisor. -/

theorem divModU_abs_zero (w : Nat) (x b : List Nat) (hb : Wf (2 ^ w) b) (hb0 : toInt (2 ^ w) b = 0) :
    divModU w x (abs (2 ^ w) b).1 = (false, zero x.length, zero x.length) := by
  have hnb : isNeg (2 ^ w) b = false := by
    cases h : isNeg (2 ^ w) b with
    | false => rfl
    | true => exact absurd hb0 (Int.ne_of_lt (toInt_lt_zero hb h))
  rw [toInt_of_not_isNeg hnb] at hb0
  rw [abs, hnb]
  exact divModU_zero w x b (Int.natCast_eq_zero.1 hb0)

theorem val_ite_neg_zero (B : Nat) (hB : 1 < B) (n : Nat) (c : Bool) :
    val B (if c then neg B (zero n) else zero n) = 0 := by
  cases c
  · exact val_zero B n
  · rw [if_pos rfl, neg_eq B hB _ (zero_wf B (by omega) n), val_ofNat, zero_length, val_zero, Nat.sub_zero,
      Nat.mod_self]

theorem divS_zero (w : Nat) (hw : 0 < w) (a b : List Nat) (hb : Wf (2 ^ w) b) (hb0 : toInt (2 ^ w) b = 0) :
    val (2 ^ w) (divS w a b) = 0 := by
  simp only [divS]
  rw [divModU_abs_zero w _ b hb hb0]
  exact val_ite_neg_zero _ (Nat.one_lt_two_pow (by omega)) _ _

theorem modS_zero (w : Nat) (hw : 0 < w) (a b : List Nat) (hb : Wf (2 ^ w) b) (hb0 : toInt (2 ^ w) b = 0) :
    val (2 ^ w) (modS w a b) = 0 := by
  simp only [modS]
  rw [divModU_abs_zero w _ b hb hb0]
  exact val_ite_neg_zero _ (Nat.one_lt_two_pow (by omega)) _ _

/-! ### exact (non-wrapping) signed results -/

theorem mulS_toInt (w : Nat) (hw : 0 < w) (a b : List Nat) (hl : a.length = b.length)
    (ha : Wf (2 ^ w) a) (hb : Wf (2 ^ w) b)
    (hlo : -(((2 ^ w) ^ a.length : Nat) : Int) ≤ 2 * (toInt (2 ^ w) a * toInt (2 ^ w) b))
    (hhi : 2 * (toInt (2 ^ w) a * toInt (2 ^ w) b) < (((2 ^ w) ^ a.length : Nat) : Int)) :
    toInt (2 ^ w) (mulS (2 ^ w) a b) = toInt (2 ^ w) a * toInt (2 ^ w) b := by
  rw [mulS_eq _ (Nat.one_lt_two_pow (by omega)) a b hl ha hb,
    toInt_ofInt (two_pow_even w hw) (Nat.two_pow_pos _) ⟨hlo, hhi⟩]

/-- a zero divisor is covered: `Int.tdiv x 0 = 0` is what the runtime returns -/
theorem divS_toInt_any_divisor (w : Nat) (hw : 0 < w) (a b : List Nat) (hl : a.length = b.length)
    (ha : Wf (2 ^ w) a) (hb : Wf (2 ^ w) b)
    (hov : ¬ (2 * toInt (2 ^ w) a = -(((2 ^ w) ^ a.length : Nat) : Int) ∧ toInt (2 ^ w) b = -1)) :
    toInt (2 ^ w) (divS w a b) = Int.tdiv (toInt (2 ^ w) a) (toInt (2 ^ w) b) := by
  rw [divS_eq w hw a b hl ha hb, toInt_ofInt (two_pow_even w hw) (Nat.two_pow_pos _)
    (tdiv_bounds (toInt_bounds (two_pow_even w hw) (Nat.two_pow_pos _) ha) hov)]

/-- `hb0` is not used: `divS_toInt_any_divisor`. -/
theorem divS_toInt (w : Nat) (hw : 0 < w) (a b : List Nat) (hl : a.length = b.length)
    (ha : Wf (2 ^ w) a) (hb : Wf (2 ^ w) b) (hb0 : toInt (2 ^ w) b ≠ 0)
    (hov : ¬ (2 * toInt (2 ^ w) a = -(((2 ^ w) ^ a.length : Nat) : Int) ∧ toInt (2 ^ w) b = -1)) :
    toInt (2 ^ w) (divS w a b) = Int.tdiv (toInt (2 ^ w) a) (toInt (2 ^ w) b) :=
  divS_toInt_any_divisor w hw a b hl ha hb hov

/-! ### exponentiation: one-bit right shift, parity, square-and-multiply -/

theorem shr1_length (w : Nat) (l : List Nat) : (shr1 w l).length = l.length := by
  induction l with
  | nil => rfl
  | cons v vs ih =>
    cases vs with
    | nil => rfl
    | cons v' vs => rw [shr1, List.length_cons, ih]; rfl

theorem shr1_eq (w : Nat) (hw : 0 < w) (l : List Nat) (h : Wf (2 ^ w) l) :
    shr1 w l = ofNat (2 ^ w) l.length (val (2 ^ w) l / 2) := by
  induction l with
  | nil => rfl
  | cons v vs ih =>
    have hv := h.head
    cases vs with
    | nil =>
      rw [shr1, List.length_singleton, ofNat_succ, Nat.mod_eq_of_lt (by rw [val_cons, val_nil]; omega)]
      rfl
    | cons v' vs =>
      -- the low limb is the window at `bs = 1` over `v` and `v'`, of which only the parity matters
      have hpar : val (2 ^ w) (v' :: vs) % 2 ^ 1 = v' % 2 ^ 1 := by
        rw [val_cons, two_pow_even w hw, Nat.mul_assoc, Nat.pow_one, Nat.add_mul_mod_self_left]
      have hq : val (2 ^ w) (v :: v' :: vs) / 2 / 2 ^ w = val (2 ^ w) (v' :: vs) / 2 := by
        rw [Nat.div_div_eq_div_mul, Nat.mul_comm, ← Nat.div_div_eq_div_mul, val_cons,
          Nat.add_mul_div_left _ _ (Nat.two_pow_pos w), Nat.div_eq_of_lt hv, Nat.zero_add]
      have hwin := div_window w 1 v (val (2 ^ w) (v' :: vs)) hw hv
      rw [hpar, ← or_window w 1 v v' hw hv, Nat.pow_one] at hwin
      rw [shr1, ih h.tail]
      show _ = ofNat (2 ^ w) ((v' :: vs).length + 1) _
      rw [ofNat_succ, hq, ← hwin, val_cons _ v]

theorem limb0_parity (w : Nat) (hw : 0 < w) (l : List Nat) : limb l 0 % 2 = val (2 ^ w) l % 2 := by
  cases l with
  | nil => rfl
  | cons x xs => rw [limb_cons_zero, val_cons, two_pow_even w hw, Nat.mul_assoc, Nat.add_mul_mod_self_left]

theorem pow_halve (b E : Nat) : b ^ E = b ^ (E % 2) * (b * b) ^ (E / 2) := by
  have h := Nat.mod_add_div E 2
  conv => lhs; rw [← h]
  rw [Nat.pow_add, Nat.pow_mul, Nat.pow_two]

theorem powLoop_eq (mulf : List Nat → List Nat → List Nat) (w : Nat) (hw : 0 < w) (n : Nat)
    (hmul : ∀ x y, mulf (ofNat (2 ^ w) n x) (ofNat (2 ^ w) n y) = ofNat (2 ^ w) n (x * y))
    (fuel r b : Nat) (e : List Nat) (hew : Wf (2 ^ w) e) (hfuel : val (2 ^ w) e < 2 ^ fuel) :
    powLoop mulf w fuel (ofNat (2 ^ w) n r) (ofNat (2 ^ w) n b) e = ofNat (2 ^ w) n (r * b ^ val (2 ^ w) e) := by
  induction fuel generalizing r b e with
  | zero =>
    have he0 : val (2 ^ w) e = 0 := by omega
    rw [he0, Nat.pow_zero, Nat.mul_one]; rfl
  | succ fuel ih =>
    simp only [powLoop]
    cases hz : isZero e with
    | true =>
      rw [(isZero_iff (2 ^ w) (Nat.two_pow_pos w) e).1 hz, Nat.pow_zero, Nat.mul_one]; rfl
    | false =>
      have he' : val (2 ^ w) (shr1 w e) = val (2 ^ w) e / 2 := by
        rw [shr1_eq w hw e hew]
        exact val_ofNat_of_lt (Nat.lt_of_le_of_lt (Nat.div_le_self _ _) (val_lt hew))
      have hew' : Wf (2 ^ w) (shr1 w e) := shr1_eq w hw e hew ▸ ofNat_wf _ (Nat.two_pow_pos w)
      -- the result is multiplied by `b ^ (E % 2)`, whichever the parity of the exponent `E`
      have hres : (if val (2 ^ w) e % 2 = 1 then mulf (ofNat (2 ^ w) n r) (ofNat (2 ^ w) n b) else ofNat (2 ^ w) n r)
          = ofNat (2 ^ w) n (r * b ^ (val (2 ^ w) e % 2)) := by
        rcases Nat.mod_two_eq_zero_or_one (val (2 ^ w) e) with hp | hp
        · rw [hp, if_neg Nat.zero_ne_one, Nat.pow_zero, Nat.mul_one]
        · rw [hp, if_pos rfl, hmul, Nat.pow_one]
      rw [if_neg Bool.false_ne_true, hmul b b, limb0_parity w hw e, hres,
        ih _ (b * b) _ hew' (he' ▸ Nat.div_lt_of_lt_mul (Nat.pow_succ' ▸ hfuel)), he', Nat.mul_assoc, ← pow_halve]

theorem one_eq (B : Nat) (hB : 1 < B) (n : Nat) : one n = ofNat B n 1 := by
  cases n with
  | zero => rfl
  | succ n => rw [ofNat_succ, Nat.mod_eq_of_lt hB, Nat.div_eq_of_lt hB, ofNat_zero]; rfl

/-- the loop as the runtime starts it: result one, as many rounds as the exponent has bits -/
theorem powLoop_one (mulf : List Nat → List Nat → List Nat) (w : Nat) (hw : 0 < w) (base e : List Nat)
    (hmul : ∀ x y, mulf (ofNat (2 ^ w) base.length x) (ofNat (2 ^ w) base.length y) = ofNat (2 ^ w) base.length (x * y))
    (hbw : Wf (2 ^ w) base) (hew : Wf (2 ^ w) e) :
    powLoop mulf w (e.length * w) (one base.length) base e
      = ofNat (2 ^ w) base.length (val (2 ^ w) base ^ val (2 ^ w) e) := by
  have hfuel := val_lt hew
  rw [← Nat.pow_mul, Nat.mul_comm w] at hfuel
  have h := powLoop_eq mulf w hw base.length hmul _ 1 (val (2 ^ w) base) e hew hfuel
  rwa [ofNat_val _ base hbw, ← one_eq _ (Nat.one_lt_two_pow (by omega)), Nat.one_mul] at h

theorem powU_eq (w : Nat) (hw : 0 < w) (base e : List Nat) (hbw : Wf (2 ^ w) base) (hew : Wf (2 ^ w) e) :
    powU w base e = ofNat (2 ^ w) base.length (val (2 ^ w) base ^ val (2 ^ w) e) :=
  powLoop_one _ w hw base e (mul_ofNat _ (Nat.two_pow_pos w) _) hbw hew

theorem powS_eq (w : Nat) (hw : 0 < w) (base e : List Nat) (hbw : Wf (2 ^ w) base) (hew : Wf (2 ^ w) e)
    (hneg : isNeg (2 ^ w) e = false) :
    powS w base e = ofNat (2 ^ w) base.length (val (2 ^ w) base ^ val (2 ^ w) e) := by
  rw [powS, hneg, if_neg Bool.false_ne_true]
  exact powLoop_one _ w hw base e (mulS_ofNat _ (Nat.one_lt_two_pow (by omega)) _) hbw hew

end FerretVerif.Limbs
