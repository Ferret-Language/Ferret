/-
  Progress, totality and position lemmas for Model/Lexer.lean (C13, C19).  `TablesOk` is all that is assumed of the
  operator table.  With it a step consumes at least one byte and at most what is there (`step_bounds`), so what is left
  is shorter (`drop_step_length`) and `s.length` iterations suffice (`lexLoop_fuel`); the end position and the bound on
  the errors are inductions on `lexLoop` that use `drop_step_length` again.  The shape of the token list and the
  lemmas on `advance` assume nothing.
-/
import FerretVerif.Proofs.LexScan

namespace FerretVerif.Lexer

/-! ### one step

`fun_cases step T s` gives the cases in matching order: white space, line comment, block comment, string, byte literal,
number, identifier, operator, unrecognised byte. -/

/-- The operator table is usable: the handler of every operator pattern consumes exactly the text its regular
    expression matched, and that text is not empty.  Decided on the regenerated table (Props/C13). -/
def TablesOk (T : Tables) : Prop := ∀ p ∈ T.ops, p.1 = p.2 ∧ p.1 ≠ []

instance (T : Tables) : Decidable (TablesOk T) := by unfold TablesOk; infer_instance

/-- **Progress**: every iteration of `Tokenize` consumes at least one byte and never more than what is left. -/
theorem step_bounds {T : Tables} (hT : TablesOk T) {s : List Byte} (hs : s ≠ []) :
    1 ≤ (step T s).n ∧ (step T s).n ≤ s.length := by
  fun_cases step T s with
  | case1 n h => exact scanWs_bounds h
  | case2 _ n h => exact scanLineComment_bounds h
  | case3 _ _ n h => exact (scanBlockComment_spec h).1
  | case4 _ _ _ n h => exact (scanString_spec h).1
  | case5 _ _ _ _ n h => exact scanByte_bounds h
  | case6 _ _ _ _ _ n h => exact scanNumber_bounds h
  | case7 _ _ _ _ _ _ n h => exact scanIdent_bounds h
  | case8 _ _ _ _ _ _ _ op h => exact scanOp_bounds hT h
  | case9 => exact ⟨Nat.le_refl 1, List.length_pos_iff.mpr hs⟩

theorem step_of_ws (T : Tables) {s : List Byte} {n : Nat} (h : scanWs s = some n) : step T s = ⟨n, none, false⟩ := by
  simp only [step, h]

theorem step_of_line (T : Tables) {s : List Byte} {n : Nat} (h1 : scanWs s = none) (h : scanLineComment s = some n) :
    step T s = ⟨n, some (.comment, commentText (s.take n)), false⟩ := by
  simp only [step, h1, h]

theorem step_of_block (T : Tables) {s : List Byte} {n : Nat} (h1 : scanWs s = none) (h2 : scanLineComment s = none)
    (h : scanBlockComment s = some n) : step T s = ⟨n, some (.comment, commentText (s.take n)), false⟩ := by
  simp only [step, h1, h2, h]

/-! ### totality: `s.length` iterations always suffice -/

def stepToks (T : Tables) (p : Pos) (s : List Byte) : List Tok :=
  match (step T s).tok with
  | some (k, v) => [⟨k, v, p, advance p (s.take (step T s).n)⟩]
  | none => []

theorem lexLoop_succ_cons (T : Tables) (f : Nat) (p : Pos) (c : Byte) (cs : List Byte) :
    (lexLoop T (f + 1) p (c :: cs)).toks =
      stepToks T p (c :: cs) ++
        (lexLoop T f (advance p ((c :: cs).take (step T (c :: cs)).n)) ((c :: cs).drop (step T (c :: cs)).n)).toks := by
  simp only [lexLoop, stepToks]
  cases (step T (c :: cs)).tok with
  | none => simp
  | some kv => obtain ⟨k, v⟩ := kv; simp

theorem drop_step_length {T : Tables} (hT : TablesOk T) (c : Byte) (cs : List Byte) :
    ((c :: cs).drop (step T (c :: cs)).n).length ≤ cs.length := by
  rw [List.length_drop]
  exact Nat.sub_le_sub_left (step_bounds hT (List.cons_ne_nil c cs)).1 _

/-- **Fuel irrelevance / termination**: with a usable operator table the loop of `Tokenize` needs at most
    `s.length` iterations — any two bounds that large give the same result, i.e. the fuel-exhausted branch of the model
    is never taken. -/
theorem lexLoop_fuel {T : Tables} (hT : TablesOk T) {f1 f2 : Nat} (p : Pos) {s : List Byte}
    (h1 : s.length ≤ f1) (h2 : s.length ≤ f2) : lexLoop T f1 p s = lexLoop T f2 p s := by
  fun_induction lexLoop T f1 p s generalizing f2 with
  | case1 p => cases f2 <;> rfl
  | case2 p c cs => cases h1
  | @case3 fuel p c cs st p' r toks ih =>
    cases f2 with
    | zero => cases h2
    | succ f =>
      have hd := drop_step_length hT c cs
      rw [lexLoop, ← ih (Nat.le_trans hd (Nat.le_of_succ_le_succ h1)) (Nat.le_trans hd (Nat.le_of_succ_le_succ h2))]

/-! ### shape of the token list -/

/-- every pattern names its token by a constructor other than `eof` (identifiers: by one of two) -/
theorem step_tok_not_eof (T : Tables) (s : List Byte) {k : Kind} {v : List Byte} (e : (step T s).tok = some (k, v)) : k ≠ .eof := by
  revert k v
  fun_cases step T s <;> intro k v e <;> cases e <;> first | decide | (split <;> decide)

theorem stepToks_not_eof (T : Tables) (p : Pos) (s : List Byte) : ∀ t ∈ stepToks T p s, t.kind ≠ .eof := by
  intro t ht
  unfold stepToks at ht
  split at ht
  · rw [List.mem_singleton.mp ht]; exact step_tok_not_eof T s ‹_›
  · cases ht

theorem lexLoop_shape (T : Tables) (fuel : Nat) (p : Pos) (s : List Byte) :
    ∃ (front : List Tok) (e : Tok), (lexLoop T fuel p s).toks = front ++ [e] ∧ e.kind = .eof ∧ ∀ t ∈ front, t.kind ≠ .eof := by
  fun_induction lexLoop T fuel p s with
  | case1 p => exact ⟨[], _, rfl, rfl, by simp⟩
  | case2 p => exact ⟨[], _, rfl, rfl, by simp⟩
  | case3 fuel p c cs st p' r toks ih =>
    obtain ⟨front, e, h1, h2, h3⟩ := ih
    refine ⟨stepToks T p (c :: cs) ++ front, e, ?_, h2,
      fun t ht => (List.mem_append.mp ht).elim (stepToks_not_eof T p _ t) (h3 t)⟩
    rw [List.append_assoc, ← h1]; exact lexLoop_succ_cons T fuel p c cs

/-! ### positions -/

def countNl : List Byte → Nat
  | [] => 0
  | c :: cs => (if c = 10 then 1 else 0) + countNl cs

theorem advanceGo_idx_line (p : Pos) (b : Bool) (s : List Byte) :
    (advanceGo p b s).idx = p.idx + s.length ∧ (advanceGo p b s).line = p.line + countNl s := by
  fun_induction advanceGo p b s <;> simp_all [countNl, Nat.add_assoc, Nat.add_comm 1]

theorem advance_idx (p : Pos) (s : List Byte) : (advance p s).idx = p.idx + s.length := (advanceGo_idx_line p false s).1

/-- **Lines follow the text**: consuming a text adds the number of its line feeds to the line. -/
theorem advance_line (p : Pos) (s : List Byte) : (advance p s).line = p.line + countNl s := (advanceGo_idx_line p false s).2

theorem advanceGo_col_plain (p : Pos) (s : List Byte) (h : ∀ c ∈ s, c ≠ 10 ∧ c ≠ 9) :
    (advanceGo p false s).col = p.col + s.length := by
  induction s generalizing p with
  | nil => rfl
  | cons c cs ih =>
    have hc := h c List.mem_cons_self
    rw [advanceGo, if_neg hc.1, if_neg hc.2]
    exact (ih ⟨p.line, p.col + 1, p.idx + 1⟩ fun d hd => h d (List.mem_cons_of_mem _ hd)).trans (Nat.add_right_comm ..)

/-- does the text end with a tab (`f` = the flag before the text) -/
def lastTab (f : Bool) : List Byte → Bool
  | [] => f
  | c :: cs => lastTab (decide (c = 9)) cs

theorem advanceGo_append (p : Pos) (f : Bool) (a b : List Byte) :
    advanceGo p f (a ++ b) = advanceGo (advanceGo p f a) (lastTab f a) b := by
  fun_induction advanceGo p f a <;> simp_all [advanceGo, lastTab]

/-- The position reached does not depend on how a text is cut into chunks, as long as no chunk ends with a tab
    (the byte after a tab inside one chunk is not counted — `prevWasTab` — and that flag is reset per chunk). -/
theorem advance_append_of_not_tab (p : Pos) (a b : List Byte) (h : lastTab false a = false) :
    advance p (a ++ b) = advance (advance p a) b := by
  unfold advance
  rw [advanceGo_append, h]

/-- **Columns follow the text** on tab-free text: after a line feed the column restarts at 1 and then grows by
    one per byte. -/
theorem advance_col_after_newline (p : Pos) (a b : List Byte) (hb : ∀ c ∈ b, c ≠ 10 ∧ c ≠ 9) :
    (advance p (a ++ 10 :: b)).col = 1 + b.length := by
  unfold advance
  rw [advanceGo_append, advanceGo, if_pos rfl, advanceGo_col_plain _ b hb]

/-! ### the final position is the end of the input -/

theorem lexLoop_eof_idx {T : Tables} (hT : TablesOk T) (fuel : Nat) (p : Pos) (s : List Byte) (hle : s.length ≤ fuel) :
    ∀ e ∈ (lexLoop T fuel p s).toks, e.kind = .eof → e.start.idx = p.idx + s.length := by
  fun_induction lexLoop T fuel p s with
  | case1 p => intro e he _; rw [List.mem_singleton.mp he]; rfl
  | case2 p c cs => cases hle
  | case3 fuel p c cs st p' r toks ih =>
    intro e he hk
    have he' : e ∈ stepToks T p (c :: cs) ++ r.toks := lexLoop_succ_cons T fuel p c cs ▸ he
    rcases List.mem_append.mp he' with h | h
    · exact absurd hk (stepToks_not_eof T p _ e h)
    · rw [ih (Nat.le_trans (drop_step_length hT c cs) (Nat.le_of_succ_le_succ hle)) e h hk, advance_idx, Nat.add_assoc,
        ← List.length_append, List.take_append_drop]

/-- every error of the lexer consumes input: at most one diagnostic per byte -/
theorem lexLoop_errs_le {T : Tables} (hT : TablesOk T) (fuel : Nat) (p : Pos) (s : List Byte) :
    (lexLoop T fuel p s).errs ≤ s.length := by
  fun_induction lexLoop T fuel p s with
  | case1 p => exact Nat.le_refl 0
  | case2 p c cs => exact Nat.zero_le _
  | case3 fuel p c cs st p' r toks ih =>
    exact Nat.add_le_add (Nat.le_trans ih (drop_step_length hT c cs)) (by split <;> decide)

end FerretVerif.Lexer
