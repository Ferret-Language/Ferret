/-
  The multi-limb shifts (ferret_shift_left_limbs / ferret_shift_right_limbs / ferret_shift_right_signed_limbs): each
  limb of the result is a digit of the shifted value (`window_split`), and a list is determined by its limbs
  (`eq_ofNat_of_limbs`); the arithmetic shift of a negative value is the logical shift of the value extended by ones.
-/
import FerretVerif.Proofs.LimbsBase

namespace FerretVerif.Limbs

/-! ### digits of shifted values -/

theorem shl_digit_succ (w A bs j : Nat) (hbs : bs ≤ w) :
    (A * 2 ^ bs / 2 ^ (w * (j + 1))) % 2 ^ w =
      ((A / 2 ^ (w * (j + 1))) % 2 ^ w * 2 ^ bs) % 2 ^ w ||| ((A / 2 ^ (w * j)) % 2 ^ w) / 2 ^ (w - bs) := by
  have e : A * 2 ^ bs / 2 ^ (w * (j + 1)) = A / 2 ^ (w * j + (w - bs)) := by
    rw [Nat.mul_succ, ← Nat.sub_add_cancel hbs, ← Nat.add_assoc, Nat.pow_add _ _ bs,
      Nat.mul_div_mul_right _ _ (Nat.two_pow_pos bs), Nat.sub_add_cancel hbs]
  rw [e, window_split w A j (w - bs) (Nat.sub_le _ _), Nat.sub_sub_self hbs, Nat.or_comm]

theorem limbs_window (w : Nat) (hw : 0 < w) (l : List Nat) (hl : Wf (2 ^ w) l) (S i : Nat) :
    (val (2 ^ w) l / 2 ^ S / (2 ^ w) ^ i) % 2 ^ w =
      limb l (i + S / w) / 2 ^ (S % w) ||| (limb l (i + S / w + 1) * 2 ^ (w - S % w)) % 2 ^ w := by
  have hB := Nat.two_pow_pos w
  have e : S + w * i = w * (i + S / w) + S % w := by
    rw [Nat.mul_add, Nat.add_assoc, Nat.div_add_mod, Nat.add_comm]
  rw [limb_eq _ hB l hl, limb_eq _ hB l hl, ← Nat.pow_mul, ← Nat.pow_mul, ← Nat.pow_mul, Nat.div_div_eq_div_mul,
    ← Nat.pow_add, e, window_split w _ _ _ (Nat.le_of_lt (Nat.mod_lt _ hw))]

/-- the model's guard on the second operand of a window only skips a zero -/
theorem guarded_or {c : Prop} [Decidable c] {v t : Nat} (h : ¬ c → t = 0) : (if c then v ||| t else v) = v ||| t := by
  split
  · rfl
  · next hc => rw [h hc, Nat.or_zero]

theorem ge_width_iff {s : Int} (hs : ¬ s ≤ 0) {N : Nat} : s ≥ (N : Int) ↔ N ≤ s.toNat := by omega

/-! ### left shift -/

theorem shl_nonpos (w : Nat) (a : List Nat) (s : Int) (hs : s ≤ 0) : shl w a s = a := by
  simp only [shl, if_pos hs]

theorem shl_big (w : Nat) (a : List Nat) (s : Int) (hs : ¬ s ≤ 0) (hbig : s ≥ ((a.length * w : Nat) : Int)) :
    shl w a s = zero a.length := by
  simp only [shl, if_neg hs, if_pos hbig]

theorem limb_shl (w : Nat) (hw : 0 < w) (a : List Nat) (ha : Wf (2 ^ w) a) (s : Int) (hs : ¬ s ≤ 0)
    (i : Nat) (hi : i < a.length) :
    limb (shl w a s) i = (val (2 ^ w) a * 2 ^ s.toNat / (2 ^ w) ^ i) % 2 ^ w := by
  have hB := Nat.two_pow_pos w
  have hlow : i < s.toNat / w → (val (2 ^ w) a * 2 ^ s.toNat / (2 ^ w) ^ i) % 2 ^ w = 0 := fun h => by
    rw [← Nat.pow_mul, digit_mul_two_pow_low _ (Nat.mul_comm _ w ▸ (Nat.le_div_iff_mul_le hw).1 h)]
  by_cases hbig : s ≥ ((a.length * w : Nat) : Int)
  · rw [shl_big w a s hs hbig, limb_zero,
      hlow (Nat.lt_of_lt_of_le hi ((Nat.le_div_iff_mul_le hw).2 ((ge_width_iff hs).1 hbig)))]
  · simp only [shl, if_neg hs, if_neg hbig]
    rw [limb_map_range _ hi]
    split
    · next hiw => exact (hlow hiw).symm
    · next hiw =>
      -- `i = k + ws`: whole limbs of the shift move the digits up, the rest is a shift by `bs < w` bits
      obtain ⟨k, rfl⟩ : ∃ k, i = k + s.toNat / w := ⟨_, (Nat.sub_add_cancel (Nat.le_of_not_lt hiw)).symm⟩
      have hbs := Nat.le_of_lt (Nat.mod_lt s.toNat hw)
      have hdm := Nat.div_add_mod s.toNat w
      generalize s.toNat / w = ws at *
      generalize s.toNat % w = bs at *
      generalize s.toNat = S at *
      subst hdm
      have e : val (2 ^ w) a * 2 ^ (w * ws + bs) / 2 ^ (w * (k + ws)) = val (2 ^ w) a * 2 ^ bs / 2 ^ (w * k) := by
        rw [Nat.mul_add, Nat.pow_add, Nat.pow_add, Nat.mul_comm (2 ^ (w * ws)), ← Nat.mul_assoc,
          Nat.mul_div_mul_right _ _ (Nat.two_pow_pos _)]
      rw [Nat.add_sub_cancel, ← Nat.pow_mul, e, limb_eq _ hB a ha k, ← Nat.pow_mul]
      cases k with
      | zero =>
        rw [if_neg (fun h => Nat.lt_irrefl 0 h.2), Nat.mul_zero, Nat.pow_zero, Nat.div_one, Nat.div_one, Nat.mod_mul_mod]
      | succ j =>
        rw [shl_digit_succ w _ bs j hbs, Nat.add_sub_cancel, limb_eq _ hB a ha j, ← Nat.pow_mul]
        refine guarded_or fun hg => ?_
        rw [Decidable.not_not.1 fun hb => hg ⟨hb, Nat.succ_pos j⟩, Nat.sub_zero,
          Nat.div_eq_of_lt (Nat.mod_lt _ hB)]

theorem shl_length (w : Nat) (a : List Nat) (s : Int) : (shl w a s).length = a.length := by
  by_cases hs : s ≤ 0
  · rw [shl_nonpos w a s hs]
  · by_cases hbig : s ≥ ((a.length * w : Nat) : Int)
    · rw [shl_big w a s hs hbig, zero_length]
    · simp only [shl, if_neg hs, if_neg hbig, List.length_map, List.length_range]

theorem shl_eq (w : Nat) (hw : 0 < w) (a : List Nat) (ha : Wf (2 ^ w) a) (s : Int) :
    shl w a s = ofNat (2 ^ w) a.length (val (2 ^ w) a * 2 ^ s.toNat) := by
  by_cases hs : s ≤ 0
  · rw [shl_nonpos w a s hs, Int.toNat_of_nonpos hs, Nat.pow_zero, Nat.mul_one, ofNat_val _ a ha]
  · exact eq_ofNat_of_limbs (shl_length w a s) fun i hi => limb_shl w hw a ha s hs i hi

theorem shl_wf (w : Nat) (hw : 0 < w) (a : List Nat) (ha : Wf (2 ^ w) a) (s : Int) : Wf (2 ^ w) (shl w a s) :=
  shl_eq w hw a ha s ▸ ofNat_wf _ (Nat.two_pow_pos w)

/-! ### logical right shift -/

theorem shr_nonpos (w : Nat) (a : List Nat) (s : Int) (hs : s ≤ 0) : shr w a s = a := by
  simp only [shr, if_pos hs]

theorem shr_big (w : Nat) (a : List Nat) (s : Int) (hs : ¬ s ≤ 0) (hbig : s ≥ ((a.length * w : Nat) : Int)) :
    shr w a s = zero a.length := by
  simp only [shr, if_neg hs, if_pos hbig]

/-- also where the model's guards cut the window short: limbs beyond the end are 0 -/
theorem limb_shr (w : Nat) (hw : 0 < w) (a : List Nat) (s : Int) (hs : ¬ s ≤ 0) (i : Nat) (hi : i < a.length) :
    limb (shr w a s) i =
      limb a (i + s.toNat / w) / 2 ^ (s.toNat % w) ||| (limb a (i + s.toNat / w + 1) * 2 ^ (w - s.toNat % w)) % 2 ^ w := by
  have hzero : ∀ j, a.length ≤ j → (limb a j * 2 ^ (w - s.toNat % w)) % 2 ^ w = 0 := fun j hj => by
    rw [limb_of_length_le a j hj, Nat.zero_mul, Nat.zero_mod]
  by_cases hbig : s ≥ ((a.length * w : Nat) : Int)
  · have hws : a.length ≤ i + s.toNat / w :=
      Nat.le_trans ((Nat.le_div_iff_mul_le hw).2 ((ge_width_iff hs).1 hbig)) (Nat.le_add_left _ _)
    rw [shr_big w a s hs hbig, limb_zero, limb_of_length_le a _ hws, hzero _ (Nat.le_succ_of_le hws), Nat.zero_div]
    rfl
  · simp only [shr, if_neg hs, if_neg hbig]
    rw [limb_map_range _ hi]
    split
    · next hsrc => rw [limb_of_length_le a _ hsrc, hzero _ (Nat.le_succ_of_le hsrc), Nat.zero_div]; rfl
    · refine guarded_or fun hg => ?_
      by_cases hb0 : s.toNat % w = 0
      · rw [hb0, Nat.sub_zero, Nat.mul_mod_left]
      · exact hzero _ (Nat.le_of_not_lt fun h => hg ⟨hb0, h⟩)

theorem shr_length (w : Nat) (a : List Nat) (s : Int) : (shr w a s).length = a.length := by
  by_cases hs : s ≤ 0
  · rw [shr_nonpos w a s hs]
  · by_cases hbig : s ≥ ((a.length * w : Nat) : Int)
    · rw [shr_big w a s hs hbig, zero_length]
    · simp only [shr, if_neg hs, if_neg hbig, List.length_map, List.length_range]

theorem shr_eq (w : Nat) (hw : 0 < w) (a : List Nat) (ha : Wf (2 ^ w) a) (s : Int) :
    shr w a s = ofNat (2 ^ w) a.length (val (2 ^ w) a / 2 ^ s.toNat) := by
  by_cases hs : s ≤ 0
  · rw [shr_nonpos w a s hs, Int.toNat_of_nonpos hs, Nat.pow_zero, Nat.div_one, ofNat_val _ a ha]
  · exact eq_ofNat_of_limbs (shr_length w a s) fun i hi =>
      (limb_shr w hw a s hs i hi).trans (limbs_window w hw a ha _ i).symm

/-! ### runs of ones, and a list extended by them -/

theorem ones_split (a p : Nat) (h : p ≤ a) : 2 ^ a - 1 = 2 ^ p * (2 ^ (a - p) - 1) + (2 ^ p - 1) := by
  rw [← Nat.add_sub_assoc (Nat.two_pow_pos p), ← Nat.mul_succ, Nat.succ_eq_add_one,
    Nat.sub_add_cancel (Nat.two_pow_pos (a - p)), ← Nat.pow_add, Nat.add_sub_cancel' h]

theorem ones_div (a p : Nat) (h : p ≤ a) : (2 ^ a - 1) / 2 ^ p = 2 ^ (a - p) - 1 := by
  have h1 := Nat.two_pow_pos p
  rw [ones_split a p h, Nat.mul_add_div h1, Nat.div_eq_of_lt (Nat.sub_lt h1 Nat.one_pos), Nat.add_zero]

theorem ones_mod (a b : Nat) (h : b ≤ a) : (2 ^ a - 1) % 2 ^ b = 2 ^ b - 1 := by
  have h1 := Nat.two_pow_pos b
  rw [ones_split a b h, Nat.mul_add_mod, Nat.mod_eq_of_lt (Nat.sub_lt h1 Nat.one_pos)]

theorem ones_window (w bs : Nat) (hbs : bs ≤ w) :
    (2 ^ w - 1) / 2 ^ bs ||| ((2 ^ w - 1) * 2 ^ (w - bs)) % 2 ^ w = 2 ^ w - 1 := by
  have h1 := Nat.two_pow_pos w
  rw [or_window w bs _ _ hbs (Nat.sub_lt h1 Nat.one_pos), ones_div w bs hbs, ones_mod w bs hbs,
    ones_split w (w - bs) (Nat.sub_le _ _), Nat.sub_sub_self hbs, Nat.add_comm]

theorem limb_append_replicate (a : List Nat) (n x j : Nat) :
    limb (a ++ List.replicate n x) j = if j < a.length then limb a j else if j < a.length + n then x else 0 := by
  induction a generalizing j with
  | nil => rw [List.nil_append, limb_replicate, List.length_nil, if_neg (Nat.not_lt_zero j), Nat.zero_add]
  | cons y ys ih =>
    cases j with
    | zero => simp [limb]
    | succ j =>
      rw [List.cons_append, limb_cons_succ, limb_cons_succ, ih, List.length_cons]
      simp only [Nat.succ_lt_succ_iff, Nat.add_right_comm _ 1 n]

theorem val_replicate_max (B : Nat) (hB : 0 < B) (n : Nat) : val B (List.replicate n (B - 1)) + 1 = B ^ n := by
  have h := val_bitNot B (zero n) (zero_wf B hB n)
  rwa [val_zero, zero_length, Nat.add_zero, bitNot, zero, List.map_replicate] at h

/-! ### arithmetic right shift -/

theorem sar_of_not_isNeg (w : Nat) (a : List Nat) (s : Int) (h : isNeg (2 ^ w) a = false) : sar w a s = shr w a s := by
  simp only [sar, h, Bool.not_false, if_true]

theorem sar_of_isNeg_big (w : Nat) (a : List Nat) (s : Int) (hneg : isNeg (2 ^ w) a = true)
    (hbig : s ≥ ((a.length * w : Nat) : Int)) : sar w a s = List.replicate a.length (2 ^ w - 1) := by
  simp only [sar, hneg, Bool.not_true, Bool.false_eq_true, if_false, if_pos hbig]

/-- model-level only: for `s < 0` on a negative value the C code has no such early exit; a negative count is
    undefined behaviour there, which is why `C16.sar_exact` asks for `0 ≤ s` -/
theorem sar_nonpos_eq (w : Nat) (hw : 0 < w) (a : List Nat) (s : Int) (hS : s ≤ 0) : sar w a s = a := by
  cases hneg : isNeg (2 ^ w) a with
  | false => rw [sar_of_not_isNeg w a s hneg, shr_nonpos w a s hS]
  | true =>
    -- the test "count ≥ width" comes first in the model; with a count `≤ 0` it holds only of the empty list,
    -- which is not negative
    have hbig : ¬ s ≥ ((a.length * w : Nat) : Int) := fun hbig => by
      have hn : a.length * w = 0 := by omega
      rw [Nat.mul_eq_zero, List.length_eq_zero_iff] at hn
      rcases hn with rfl | h
      · exact Nat.not_le.2 (Nat.two_pow_pos w) (of_decide_eq_true hneg)
      · omega
    simp only [sar, hneg, Bool.not_true, Bool.false_eq_true, if_false, if_neg hbig, if_pos hS]
    exact shr_nonpos w a s hS

/-- `s.toNat / w + 1` limbs of ones are enough for the shift count -/
theorem limb_sar (w : Nat) (hw : 0 < w) (a : List Nat) (ha : Wf (2 ^ w) a) (s : Int) (hS : ¬ s ≤ 0)
    (hneg : isNeg (2 ^ w) a = true) (i : Nat) (hi : i < a.length) :
    limb (sar w a s) i =
      (val (2 ^ w) (a ++ List.replicate (s.toNat / w + 1) (2 ^ w - 1)) / 2 ^ s.toNat / (2 ^ w) ^ i)
        % 2 ^ w := by
  have hL := ha.append
    (Wf.replicate (s.toNat / w + 1) (Nat.sub_lt (Nat.two_pow_pos w) Nat.one_pos))
  have hbs := Nat.mod_lt s.toNat hw
  have hones : ∀ j, a.length ≤ j → j ≤ i + s.toNat / w + 1 →
      limb (a ++ List.replicate (s.toNat / w + 1) (2 ^ w - 1)) j = 2 ^ w - 1 := fun j h1 h2 => by
    rw [limb_append_replicate, if_neg (Nat.not_lt.2 h1), if_pos (by omega)]
  rw [limbs_window w hw _ hL]
  by_cases hbig : s ≥ ((a.length * w : Nat) : Int)
  · -- all ones
    have hws : a.length ≤ s.toNat / w := (Nat.le_div_iff_mul_le hw).2 ((ge_width_iff hS).1 hbig)
    have hge : a.length ≤ i + s.toNat / w := Nat.le_trans hws (Nat.le_add_left _ _)
    rw [sar_of_isNeg_big w a s hneg hbig, limb_replicate, if_pos hi, hones _ hge (Nat.le_succ _),
      hones _ (Nat.le_succ_of_le hge) (Nat.le_refl _), ones_window w _ (Nat.le_of_lt hbs)]
  · -- the loop ors sign bits onto `out = shr w a s`, whose limbs are the windows of `a` itself
    have hws : s.toNat / w < a.length :=
      Nat.div_lt_of_lt_mul (Nat.mul_comm _ w ▸ Nat.lt_of_not_le fun h => hbig ((ge_width_iff hS).2 h))
    simp only [sar, hneg, Bool.not_true, Bool.false_eq_true, if_false, if_neg hS, if_neg hbig]
    rw [limb_map_range _ hi, limb_shr w hw a s hS i hi]
    generalize s.toNat / w = ws at *
    generalize s.toNat % w = bs at *
    clear hS hbig hneg hL ha  -- for `omega`'s context
    rcases Nat.lt_or_ge (i + ws) a.length with hlt | hge
    · rw [if_neg (Nat.not_le.2 (Nat.lt_sub_of_add_lt hlt)), limb_append_replicate, if_pos hlt]
      by_cases hlast : i + ws + 1 < a.length
      · -- the window lies in `a`
        rw [if_neg (fun h => by omega : ¬ (bs ≠ 0 ∧ i = a.length - 1 - ws)), limb_append_replicate, if_pos hlast]
      · -- the window straddles the top limb of `a` and the ones
        rw [hones _ (Nat.le_of_not_lt hlast) (Nat.le_refl _), limb_of_length_le a _ (Nat.le_of_not_lt hlast),
          Nat.zero_mul, Nat.zero_mod, Nat.or_zero]
        exact guarded_or fun hg => by
          rw [Decidable.not_not.1 fun hb => hg ⟨hb, by omega⟩, Nat.sub_zero, Nat.mul_mod_left]
    · -- the window lies in the ones
      rw [if_pos (Nat.sub_le_of_le_add hge), hones _ hge (Nat.le_succ _),
        hones _ (Nat.le_succ_of_le hge) (Nat.le_refl _), ones_window w bs (Nat.le_of_lt hbs)]

theorem sar_eq (w : Nat) (hw : 0 < w) (a : List Nat) (ha : Wf (2 ^ w) a) (s : Int) :
    sar w a s = ofInt (2 ^ w) a.length (toInt (2 ^ w) a / 2 ^ s.toNat) := by
  have hB := Nat.two_pow_pos w
  cases hneg : isNeg (2 ^ w) a with
  | false =>
    rw [sar_of_not_isNeg w a s hneg, shr_eq w hw a ha s, toInt_of_not_isNeg hneg, ← ofInt_natCast, Int.natCast_ediv,
      Int.natCast_pow]
    rfl  -- `((2 : Nat) : Int)` is `2`
  | true =>
    by_cases hS : s ≤ 0
    · rw [sar_nonpos_eq w hw a s hS, Int.toNat_of_nonpos hS, Int.pow_zero, Int.ediv_one, ofInt_toInt _ a ha]
    · have hlen : (sar w a s).length = a.length := by
        by_cases hbig : s ≥ ((a.length * w : Nat) : Int)
        · rw [sar_of_isNeg_big w a s hneg hbig, List.length_replicate]
        · simp only [sar, hneg, Bool.not_true, Bool.false_eq_true, if_false, if_neg hS, if_neg hbig,
            List.length_map, List.length_range]
      have h := eq_ofNat_of_limbs hlen fun i hi => limb_sar w hw a ha s hS hneg i hi
      -- as integers the extended value is `toInt a + B^n * B^m`, and `2^s` divides `B^m`
      have hv := val_replicate_max (2 ^ w) hB (s.toNat / w + 1)
      have hp : (2 ^ w) ^ (s.toNat / w + 1) = 2 ^ (w * (s.toNat / w + 1) - s.toNat) * 2 ^ s.toNat := by
        rw [← Nat.pow_mul]; exact (Nat.pow_sub_mul_pow 2 (Nat.le_of_lt (Nat.lt_mul_div_succ _ hw))).symm
      have hcast : ((val (2 ^ w) (a ++ List.replicate (s.toNat / w + 1) (2 ^ w - 1)) : Nat) : Int)
          = toInt (2 ^ w) a + (((2 ^ w) ^ a.length * 2 ^ (w * (s.toNat / w + 1) - s.toNat) : Nat) : Int)
              * ((2 ^ s.toNat : Nat) : Int) := by
        rw [toInt_of_isNeg hneg, val_append, ← Int.natCast_mul, Nat.mul_assoc, ← hp, ← hv, Nat.mul_succ]
        omega
      rw [h, ← ofInt_natCast, Int.natCast_ediv, hcast,
        Int.add_mul_ediv_right _ _ (Int.natCast_ne_zero_iff_pos.2 (Nat.two_pow_pos _)), Int.natCast_pow,
        Int.natCast_mul]
      exact ofInt_congr _ _ (Int.add_mul_emod_self_left _ _ _)

theorem sar_toInt (w : Nat) (hw : 0 < w) (a : List Nat) (ha : Wf (2 ^ w) a) (s : Int) :
    toInt (2 ^ w) (sar w a s) = toInt (2 ^ w) a / 2 ^ s.toNat := by
  rw [sar_eq w hw a ha s, toInt_ofInt (two_pow_even w hw) (Nat.two_pow_pos _)
    (ediv_bounds (Int.pow_pos (by decide)) (toInt_bounds (two_pow_even w hw) (Nat.two_pow_pos _) ha))]

end FerretVerif.Limbs
