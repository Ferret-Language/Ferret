/-
  The data-layout model (Model/Layout.lean, C18).  On well-formed types (`WfTy`: every primitive has size 0 or a power
  of two) and with a power-of-two pointer size every alignment is a power of two (`align_pow2`), and of two powers of
  two the smaller divides the larger (`IsPow2.dvd_of_le`): hence size is a multiple of alignment and a field's alignment
  divides its struct's.  The placement facts rest on `le_alignTo` and `alignTo_dvd` alone: StructLayout's loop places
  the fields aligned, one after another and inside the struct (`fieldOffsets_spec`); the optional flag and the result
  tag lie after the payload and inside the object; array elements are disjoint.  The offsets hard-coded in the C
  runtime (io.c) agree with the model at ps = 8.
-/
import FerretVerif.Model.Layout

namespace FerretVerif.Layout

/-! ### powers of two and well-formed types -/

def IsPow2 (n : Nat) : Prop := ∃ k, n = 2 ^ k

theorem IsPow2.pos {n : Nat} (h : IsPow2 n) : 0 < n := by
  cases h with
  | intro k hk => subst hk; exact Nat.pow_pos (by decide)

theorem isPow2_one : IsPow2 1 := ⟨0, rfl⟩

theorem isPow2_iff_bounded (n : Nat) : IsPow2 n ↔ ∃ k, k < n + 1 ∧ n = 2 ^ k :=
  ⟨fun ⟨k, hk⟩ => ⟨k, Nat.lt_succ_of_lt (hk ▸ Nat.lt_two_pow_self), hk⟩, fun ⟨k, hk⟩ => ⟨k, hk.2⟩⟩

instance (n : Nat) : Decidable (IsPow2 n) :=
  decidable_of_iff _ (isPow2_iff_bounded n).symm

theorem isPow2_max {a b : Nat} (ha : IsPow2 a) (hb : IsPow2 b) : IsPow2 (max a b) := by
  rw [Nat.max_def]; split <;> assumption

theorem isPow2_max_one {a : Nat} (ha : IsPow2 a) : max a 1 = a := Nat.max_eq_left ha.pos

theorem IsPow2.dvd_of_le {a b : Nat} (ha : IsPow2 a) (hb : IsPow2 b) (h : a ≤ b) : a ∣ b := by
  cases ha with
  | intro k hk =>
    cases hb with
    | intro l hl =>
      subst hk; subst hl
      exact Nat.pow_dvd_pow 2 ((Nat.pow_le_pow_iff_right (by decide)).1 h)

mutual
/-- every primitive inside has size 0 or a power of two (real sizes: 0,1,2,4,8,16,32) -/
def WfTy : Ty → Prop
  | .prim s => s = 0 ∨ IsPow2 s
  | .ptr => True
  | .iface2 => True
  | .arr e _ => WfTy e
  | .opt i => WfTy i
  | .res o e => WfTy o ∧ WfTy e
  | .struct fs => WfTys fs
def WfTys : List Ty → Prop
  | [] => True
  | f :: fs => WfTy f ∧ WfTys fs
end

mutual
def decWfTy : (t : Ty) → Decidable (WfTy t)
  | .prim s => inferInstanceAs (Decidable (s = 0 ∨ IsPow2 s))
  | .ptr => isTrue trivial
  | .iface2 => isTrue trivial
  | .arr e _ => decWfTy e
  | .opt i => decWfTy i
  | .res o e => @instDecidableAnd _ _ (decWfTy o) (decWfTy e)
  | .struct fs => decWfTys fs
def decWfTys : (fs : List Ty) → Decidable (WfTys fs)
  | [] => isTrue trivial
  | f :: fs => @instDecidableAnd _ _ (decWfTy f) (decWfTys fs)
end

instance (t : Ty) : Decidable (WfTy t) := decWfTy t
instance (fs : List Ty) : Decidable (WfTys fs) := decWfTys fs

theorem WfTys.mem {fs : List Ty} (h : WfTys fs) {f : Ty} (hf : f ∈ fs) : WfTy f := by
  induction fs with
  | nil => cases hf
  | cons g gs ih =>
    unfold WfTys at h
    cases hf with
    | head => exact h.1
    | tail _ hm => exact ih h.2 hm

example : WfTy (.struct [.prim 1, .prim 8, .struct [.prim 2, .opt (.prim 16)],
    .arr (.res .ptr (.prim 4)) 3]) := by decide
example : ¬ WfTy (.struct [.prim 1, .arr (.prim 3) 2]) := by decide

/-! ### alignTo -/

theorem le_alignTo (v a : Nat) : v ≤ alignTo v a := by
  unfold alignTo; split
  · exact Nat.le_refl _
  · split
    · exact Nat.le_refl _
    · exact Nat.le_add_right _ _

theorem alignTo_dvd (v : Nat) {a : Nat} (ha : 0 < a) : a ∣ alignTo v a := by
  unfold alignTo; split
  · exact Nat.le_antisymm ‹_› ha ▸ Nat.one_dvd _
  · split
    · exact Nat.dvd_of_mod_eq_zero ‹_›
    · -- `v + (a - v % a)` is `v - v % a`, a multiple of `a`, plus `a`
      rw [← Nat.add_sub_assoc (Nat.le_of_lt (Nat.mod_lt v ha)), Nat.sub_add_comm (Nat.mod_le v a)]
      exact Nat.dvd_add (Nat.dvd_sub_mod v) (Nat.dvd_refl a)

theorem alignTo_lt (v : Nat) {a : Nat} (ha : 0 < a) : alignTo v a < v + a := by
  unfold alignTo; split
  · exact Nat.lt_add_of_pos_right ha
  · split
    · exact Nat.lt_add_of_pos_right ha
    · exact Nat.add_lt_add_left (Nat.sub_lt ha (Nat.pos_of_ne_zero ‹_›)) v

theorem alignTo_of_dvd {v a : Nat} (h : a ∣ v) : alignTo v a = v := by
  rw [alignTo, if_pos (Nat.mod_eq_zero_of_dvd h), ite_self]

/-- alignments 0 and 1 both mean "no padding" -/
theorem alignTo_max_one (v a : Nat) : alignTo v (max a 1) = alignTo v a := by
  cases a with
  | zero => rfl
  | succ n => rw [Nat.max_eq_left (Nat.succ_pos n)]

/-! ### alignment is a power of two -/

theorem clampAlign_spec {s ps : Nat} (hps : IsPow2 ps) (hs : s = 0 ∨ IsPow2 s) :
    IsPow2 (clampAlign s ps) ∧ clampAlign s ps ∣ s := by
  unfold clampAlign
  split
  · exact ⟨isPow2_one, Nat.one_dvd _⟩
  · split
    · exact ⟨hps, hps.dvd_of_le (hs.resolve_left ‹_›) (Nat.le_of_lt ‹_›)⟩
    · exact ⟨hs.resolve_left ‹_›, Nat.dvd_refl _⟩

mutual
theorem align_pow2 {ps : Nat} (hps : IsPow2 ps) : (t : Ty) → WfTy t → IsPow2 (alignOf ps t)
  | .prim _, h => (clampAlign_spec hps h).1
  | .ptr, _ => hps
  | .iface2, _ => hps
  | .arr e _, h => align_pow2 hps e h
  | .opt i, h => isPow2_max (align_pow2 hps i h) isPow2_one
  | .res o e, h => isPow2_max (align_pow2 hps o h.1) (align_pow2 hps e h.2)
  | .struct fs, h => structAlign_pow2 hps fs h
theorem structAlign_pow2 {ps : Nat} (hps : IsPow2 ps) :
    (fs : List Ty) → WfTys fs → IsPow2 (structAlign ps fs)
  | [], _ => isPow2_one
  | f :: fs, h => isPow2_max (align_pow2 hps f h.1) (structAlign_pow2 hps fs h.2)
end

theorem align_pos {ps : Nat} (hps : IsPow2 ps) {t : Ty} (h : WfTy t) : 0 < alignOf ps t :=
  (align_pow2 hps t h).pos

theorem structAlign_pos {ps : Nat} (hps : IsPow2 ps) {fs : List Ty} (h : WfTys fs) :
    0 < structAlign ps fs :=
  (structAlign_pow2 hps fs h).pos

/-! ### size is a multiple of alignment -/

theorem size_mult_align {ps : Nat} (hps : IsPow2 ps) :
    (t : Ty) → WfTy t → alignOf ps t ∣ sizeOf ps t
  | .prim _, h => (clampAlign_spec hps h).2
  | .ptr, _ => Nat.dvd_refl ps
  | .iface2, _ => Nat.dvd_mul_right ps 2
  | .arr e _, h => Nat.dvd_trans (size_mult_align hps e h) (Nat.dvd_mul_right _ _)
  | .opt i, h => alignTo_dvd _ (align_pos hps (t := .opt i) h)
  | .res o e, h => by
    rw [sizeOf, alignTo_max_one]
    exact alignTo_dvd _ (align_pos hps (t := .res o e) h)
  | .struct fs, h => alignTo_dvd _ (align_pos hps (t := .struct fs) h)

/-! ### field alignment divides struct alignment -/

theorem field_align_le_struct (ps : Nat) {f : Ty} {fs : List Ty} (hf : f ∈ fs) :
    alignOf ps f ≤ structAlign ps fs := by
  induction fs with
  | nil => cases hf
  | cons g gs ih =>
    unfold structAlign
    cases hf with
    | head => exact Nat.le_max_left _ _
    | tail _ hm => exact Nat.le_trans (ih hm) (Nat.le_max_right _ _)

theorem field_align_dvd_struct {ps : Nat} (hps : IsPow2 ps) {fs : List Ty} (hwf : WfTys fs)
    {f : Ty} (hf : f ∈ fs) : alignOf ps f ∣ structAlign ps fs :=
  (align_pow2 hps f (hwf.mem hf)).dvd_of_le (structAlign_pow2 hps fs hwf)
    (field_align_le_struct ps hf)

/-! ### struct field layout -/

theorem fieldOffsets_length (ps : Nat) (fs : List Ty) (off : Nat) :
    (fieldOffsets ps fs off).length = fs.length := by
  induction fs generalizing off with
  | nil => rfl
  | cons f fs ih => simp [fieldOffsets, ih]

theorem le_structEnd (ps : Nat) (fs : List Ty) (off : Nat) : off ≤ structEnd ps fs off := by
  induction fs generalizing off with
  | nil => unfold structEnd; exact Nat.le_refl _
  | cons f fs ih =>
    unfold structEnd
    exact Nat.le_trans (Nat.le_trans (le_alignTo off _) (Nat.le_add_right _ _)) (ih _)

/-- StructLayout's loop started at running offset `off` -/
theorem fieldOffsets_spec (ps : Nat) (fs : List Ty) (off : Nat) :
    (∀ p ∈ (fieldOffsets ps fs off).zip fs,
      off ≤ p.1 ∧ (0 < alignOf ps p.2 → alignOf ps p.2 ∣ p.1) ∧ p.1 + sizeOf ps p.2 ≤ structEnd ps fs off) ∧
    ((fieldOffsets ps fs off).zip fs).Pairwise fun p q => p.1 + sizeOf ps p.2 ≤ q.1 := by
  induction fs generalizing off with
  | nil => exact ⟨nofun, .nil⟩
  | cons f fs ih =>
    obtain ⟨ih1, ih2⟩ := ih (alignTo off (alignOf ps f) + sizeOf ps f)
    have hle : off ≤ alignTo off (alignOf ps f) + sizeOf ps f := Nat.le_trans (le_alignTo ..) (Nat.le_add_right ..)
    rw [fieldOffsets, structEnd, List.zip_cons_cons, List.forall_mem_cons, List.pairwise_cons]
    exact ⟨⟨⟨le_alignTo .., alignTo_dvd _, le_structEnd ..⟩, fun p hp => ⟨Nat.le_trans hle (ih1 p hp).1, (ih1 p hp).2⟩⟩,
      fun p hp => (ih1 p hp).1, ih2⟩

theorem getElem_mem_zip_fieldOffsets (ps : Nat) (fs : List Ty) (off i : Nat) (hi : i < fs.length) :
    ((fieldOffsets ps fs off)[i]'(by rw [fieldOffsets_length]; exact hi), fs[i]) ∈ (fieldOffsets ps fs off).zip fs := by
  rw [← List.getElem_zip]
  exact List.getElem_mem (by rw [List.length_zip, fieldOffsets_length, Nat.min_self]; exact hi)

theorem fields_aligned {ps : Nat} (hps : IsPow2 ps) (fs : List Ty) (hwf : WfTys fs)
    (i : Nat) (hi : i < fs.length) :
    alignOf ps fs[i] ∣ (fieldOffsets ps fs 0)[i]'(by rw [fieldOffsets_length]; exact hi) :=
  ((fieldOffsets_spec ps fs 0).1 _ (getElem_mem_zip_fieldOffsets ps fs 0 i hi)).2.1
    (align_pos hps (hwf.mem (List.getElem_mem hi)))

/-! ### optional -/

theorem optional_flag_after_payload (ps : Nat) (inner : Ty) :
    sizeOf ps inner ≤ optFlagOff ps inner ∧ optFlagOff ps inner < sizeOf ps (.opt inner) :=
  ⟨Nat.le_refl _, le_alignTo (sizeOf ps inner + 1) _⟩

/-- the payload sits at offset 0, so it is aligned wherever the optional is -/
theorem optional_payload_align_le (ps : Nat) (inner : Ty) :
    alignOf ps inner ≤ alignOf ps (.opt inner) := by
  rw [alignOf]; exact Nat.le_max_left _ _

/-! ### result -/

theorem resTagOff_eq (ps : Nat) (ok err : Ty) :
    resTagOff ps ok err
      = alignTo (max (sizeOf ps ok) (sizeOf ps err)) (max (alignOf ps ok) (alignOf ps err)) := by
  unfold resTagOff
  exact alignTo_max_one _ _

theorem result_tag_after_union (ps : Nat) (ok err : Ty) :
    sizeOf ps ok ≤ resTagOff ps ok err ∧ sizeOf ps err ≤ resTagOff ps ok err ∧
      resTagOff ps ok err < sizeOf ps (.res ok err) := by
  rw [resTagOff_eq]
  have h := le_alignTo (max (sizeOf ps ok) (sizeOf ps err)) (max (alignOf ps ok) (alignOf ps err))
  exact ⟨Nat.le_trans (Nat.le_max_left ..) h, Nat.le_trans (Nat.le_max_right ..) h, le_alignTo _ _⟩

/-! ### arrays -/

theorem array_elems_disjoint (ps : Nat) (e : Ty) {i j n : Nat} (hij : i < j) (hjn : j < n) :
    i * sizeOf ps e + sizeOf ps e ≤ j * sizeOf ps e ∧
      j * sizeOf ps e + sizeOf ps e ≤ sizeOf ps (.arr e n) :=
  have step {a b : Nat} (h : a < b) : a * sizeOf ps e + sizeOf ps e ≤ b * sizeOf ps e :=
    Nat.succ_mul a _ ▸ Nat.mul_le_mul_right _ h
  ⟨step hij, Nat.le_trans (step hjn) (Nat.le_of_eq (Nat.mul_comm n _))⟩

/-! ### offsets hard-coded in the C runtime (io.c) at ps = 8 -/

theorem io_c_hardcoded_offsets_ok :
    (sizeOf 8 (.res .ptr (.prim 4)) = 16 ∧ resTagOff 8 .ptr (.prim 4) = 8) ∧
    (sizeOf 8 (.res .ptr (.prim 8)) = 16 ∧ resTagOff 8 .ptr (.prim 8) = 8) ∧
    (sizeOf 8 (.res .ptr .ptr) = 16 ∧ resTagOff 8 .ptr .ptr = 8) := by
  decide

/-! ### non-vacuity -/

def exTy : Ty :=
  .struct [.prim 1, .prim 8, .struct [.prim 2, .opt (.prim 16)], .arr (.res .ptr (.prim 4)) 3]

def exFields : List Ty :=
  [.prim 1, .prim 8, .struct [.prim 2, .opt (.prim 16)], .arr (.res .ptr (.prim 4)) 3]

example : WfTy exTy := by decide
example : WfTys exFields := by decide
example : IsPow2 8 ∧ IsPow2 4 := by decide

example : exTy = .struct exFields := rfl

/-- concrete layout at ps = 8 (x64 / arm64) -/
example : fieldOffsets 8 exFields 0 = [0, 8, 16, 48] ∧ sizeOf 8 exTy = 96 ∧ alignOf 8 exTy = 8 := by
  decide
/-- concrete layout at ps = 4 (wasm32) -/
example : fieldOffsets 4 exFields 0 = [0, 4, 12, 36] ∧ sizeOf 4 exTy = 60 ∧ alignOf 4 exTy = 4 := by
  decide
/-- the inner struct `{i16, i128?}`: at ps = 8 the i128 is clamped to alignment 8 -/
example : fieldOffsets 8 [.prim 2, .opt (.prim 16)] 0 = [0, 8] ∧
    sizeOf 8 (.struct [.prim 2, .opt (.prim 16)]) = 32 ∧ optFlagOff 8 (.prim 16) = 16 ∧
    sizeOf 8 (.opt (.prim 16)) = 24 := by
  decide
example : fieldOffsets 4 [.prim 2, .opt (.prim 16)] 0 = [0, 4] ∧
    sizeOf 4 (.struct [.prim 2, .opt (.prim 16)]) = 24 ∧ sizeOf 4 (.opt (.prim 16)) = 20 := by
  decide
/-- degenerate shapes are covered: empty struct, zero-length array, void payloads -/
example : WfTy (.struct []) ∧ sizeOf 8 (.struct []) = 0 ∧ alignOf 8 (.struct []) = 1 ∧
    WfTy (.arr (.prim 8) 0) ∧ sizeOf 8 (.arr (.prim 8) 0) = 0 ∧
    WfTy (.opt (.prim 0)) ∧ sizeOf 8 (.opt (.prim 0)) = 1 ∧
    sizeOf 8 (.res (.prim 0) (.prim 0)) = 1 ∧ resTagOff 8 (.prim 0) (.prim 0) = 0 := by
  decide

/-- the general theorems instantiated on the example (hypotheses are satisfiable) -/
example : alignOf 8 exTy ∣ sizeOf 8 exTy := size_mult_align (by decide) exTy (by decide)
example : alignOf 4 exFields[2] ∣ (fieldOffsets 4 exFields 0)[2] :=
  fields_aligned (by decide) exFields (by decide) 2 (by decide)

/-- the power-of-two hypothesis on primitive sizes is needed: for `align_pow2`, a 3-byte primitive would have
    alignment 3; for `size_mult_align`, a 12-byte one alignment 8 ∤ 12 -/
example : ¬ WfTy (.prim 12) ∧ ¬ (alignOf 8 (.prim 12) ∣ sizeOf 8 (.prim 12)) := by decide

end FerretVerif.Layout
