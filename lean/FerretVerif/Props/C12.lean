/-
  Props/C12.lean — C12: visibility by capitalisation.

  Kernel-checked over Model/Visibility.lean (tied to utils.IsExported by correspondence on arbitrary byte strings; the two
  decision functions are transcriptions of resolveStaticAccess / checkSelectorExpr and are tied through the whole
  compiler by the enumerated projects of checks/c12.py):
    * for identifiers (the lexer's identifier language) `isExported` is exactly "the first character is an uppercase
      letter"; `_x` and `x` are private;
    * a private symbol is never reachable from another module, an exported one always, and inside its own module
      every symbol is reachable;
    * a private field is reachable only when the base of the selector is an identifier bound to a receiver: through
      ANY longer access path (nested selectors, indexing, parentheses, call results — to any depth) it is rejected,
      while exported fields are reachable through every path.
  That the checks are actually reached in every syntactic position is observed, not proved.
-/
import FerretVerif.Model.Visibility
import FerretVerif.Model.Lexer

namespace FerretVerif.C12
open FerretVerif.Visibility

theorem isExported_iff (name : List Nat) : isExported name = true ↔ ∃ c rest, name = c :: rest ∧ 65 ≤ c ∧ c ≤ 90 := by
  cases name with
  | nil => exact ⟨nofun, nofun⟩
  | cons c rest =>
    simp only [isExported, Bool.and_eq_true, decide_eq_true_eq]
    constructor
    · intro hc; exact ⟨c, rest, rfl, hc.1, hc.2⟩
    · rintro ⟨c', rest', e, h1, h2⟩
      cases e; exact ⟨h1, h2⟩

/-- on identifiers, exported ⟺ the first character is an uppercase ASCII letter (identifiers are ASCII).
    `h` is not used: `isExported_iff`. -/
theorem exported_iff_uppercase_initial (name : List Nat) (h : Lexer.scanIdent name = some name.length) :
    isExported name = true ↔ ∃ c rest, name = c :: rest ∧ 65 ≤ c ∧ c ≤ 90 :=
  isExported_iff name

/-- an identifier starting with a lowercase letter or `_` is private -/
theorem lowercase_or_underscore_private (c : Nat) (rest : List Nat) (h : (97 ≤ c ∧ c ≤ 122) ∨ c = 95) :
    isExported (c :: rest) = false := by
  simp only [isExported, Bool.and_eq_false_iff, decide_eq_false_iff_not]
  omega

theorem private_symbol_hidden_from_other_modules (name : List Nat) (h : isExported name = false) :
    staticAccessAllowed name false = false := by simp [staticAccessAllowed, h]

theorem exported_symbol_visible_everywhere (name : List Nat) (same : Bool) (h : isExported name = true) :
    staticAccessAllowed name same = true := by simp [staticAccessAllowed, h]

theorem own_module_sees_everything (name : List Nat) : staticAccessAllowed name true = true := by simp [staticAccessAllowed]

/-- a private field is reachable through a base only if that base is a receiver identifier -/
theorem private_field_only_through_receiver (field : List Nat) (h : isExported field = false) (b : Base) :
    fieldAccessAllowed field b = true ↔ b = .ident true := by
  cases b <;> simp [fieldAccessAllowed, h]

theorem exported_field_through_every_path (field : List Nat) (h : isExported field = true) (b : Base) :
    fieldAccessAllowed field b = true := by
  cases b <;> simp [fieldAccessAllowed, h]

example : isExported [66, 97] = true ∧ isExported [98, 97] = false ∧ isExported [95, 66] = false ∧ isExported [] = false := by decide

end FerretVerif.C12
