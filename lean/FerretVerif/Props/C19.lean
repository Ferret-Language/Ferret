/-
  Props/C19.lean — C19: layout of the source text does not change meaning; diagnostics follow the text.

  Kernel-checked here (over Model/Lexer.lean, tied to tokenizer.go / positions.go by the regenerated tables and by
  byte-level correspondence, see checks/c13.py and checks/c19.py):
    * leading trivia — any sequence of white space, block comments and newline-terminated line comments — in
      front of ANY text leaves the significant tokens (kinds and values) of that text unchanged;
    * line numbers are 1 + the number of line feeds consumed, whatever the chunking; columns restart at 1 after a
      line feed and grow by one per byte on tab-free text; the position reached is independent of how the text is
      cut into chunks as long as no chunk ends with a tab (the `prevWasTab` rule, asserted by the repo's own test).
    * `tokens_invariant`: invariance of the significant tokens under insertion of separator trivia at EVERY token gap
      of a text (per-scanner maximal-munch stability, Proofs/LexStable.lean).
  The parser as a whole is not modelled (it receives comment tokens too; checks/c19.py covers it on the real compiler).
-/
import FerretVerif.Proofs.LexStable
import FerretVerif.Props.C13

namespace FerretVerif.C19
open FerretVerif.Lexer

/-- `C13.T`, by definition -/
def T : Tables := ⟨Gen.lexOps, Gen.lexKeywords⟩

theorem tables_ok : TablesOk T := C13.tables_ok

/-- Leading white space and comments are inert for every following text. -/
theorem leading_trivia_inert {t : List Byte} (ht : Trivia t) (s : List Byte) : sigs T (t ++ s) = sigs T s :=
  leading_trivia_skipped tables_ok ht s

/-- A text made only of trivia has no significant token. -/
theorem trivia_only_no_tokens {t : List Byte} (ht : Trivia t) : sigs T t = [] := by
  have := leading_trivia_inert ht []
  rw [List.append_nil] at this
  rw [this, sigs_nil]

/-- Lines follow the text: after consuming `s` the line number has grown by the number of line feeds in `s`. -/
theorem lines_follow_text (p : Pos) (s : List Byte) : (advance p s).line = p.line + countNl s := advance_line p s

/-- Columns follow the text (tab-free): `b` bytes after a line feed put the position in column `1 + |b|`. -/
theorem columns_follow_text (p : Pos) (a b : List Byte) (hb : ∀ c ∈ b, c ≠ 10 ∧ c ≠ 9) :
    (advance p (a ++ 10 :: b)).col = 1 + b.length := advance_col_after_newline p a b hb

/-- Byte offsets follow the text. -/
theorem offsets_follow_text (p : Pos) (s : List Byte) : (advance p s).idx = p.idx + s.length := advance_idx p s

/-- The position does not depend on the chunking unless a chunk ends with a tab. -/
theorem chunking_irrelevant (p : Pos) (a b : List Byte) (h : lastTab false a = false) :
    advance p (a ++ b) = advance (advance p a) b := advance_append_of_not_tab p a b h

/-- … and the hypothesis is needed: the byte after a tab is not counted when both are consumed in one chunk, but
    is counted when the chunk ends at the tab (positions.go `prevWasTab`; asserted by TestPositionAdvance). -/
theorem tab_swallow_witness :
    (advance Pos.start [9, 32]).col = 5 ∧ (advance (advance Pos.start [9]) [32]).col = 6 := by decide

/-! ### trivia inserted at every token gap -/

theorem ops_have_no_space : opsNoSpace T := by decide +kernel

/-- C19 at the token level, full strength: take any text none of whose chunks starts with an unclosed string / byte-literal /
    block-comment opener (`cleanRun`), and put ANY separator trivia — nothing, or white space followed by any mix of white
    space, block comments and newline-terminated line comments — in front of ANY of its significant chunks (`weave` re-emits
    the text chunk by chunk, `tv off` chooses what goes in front of the chunk at byte offset `off`).  The significant tokens
    (kinds and values) the parser receives are unchanged.  Proved in Proofs/LexStable.lean from per-scanner maximal-munch
    stability lemmas (`step_kept`: what a step consumes and produces does not change when white-space-led material is
    inserted behind the bytes it consumes). -/
theorem tokens_invariant (s : List Byte) (tv : Nat → List Byte) (hclean : cleanRun T s.length s = true)
    (htv : ∀ i, SepTrivia (tv i)) : sigs T (weave T tv s.length 0 s) = sigs T s :=
  weave_sigs_any_fuel tables_ok ops_have_no_space htv s.length 0 s hclean

/-- why the hypothesis is there: behind an unclosed opener inserted trivia is not inert — `"a` lexes as an error and the
    identifier `a`, while `"a /*"*/` contains a string -/
theorem unclosed_opener_witness :
    cleanRun T 2 [34, 97] = false ∧ sigs T [34, 97] ≠ sigs T ([34, 97] ++ [32, 47, 42, 34, 42, 47]) := by decide +kernel

-- the hypotheses are inhabited: `a-1` is clean, and ` /*c*/ ` is separator trivia
example : cleanRun T 3 [97, 45, 49] = true := by decide +kernel
example : sigs T (weave T (fun _ => [32, 47, 42, 99, 42, 47, 32]) 3 0 [97, 45, 49]) = sigs T [97, 45, 49] := by decide +kernel
example : SepTrivia [32, 47, 42, 99, 42, 47, 32] :=
  .inr ⟨32, _, rfl, by decide, .ws _ _ (by decide) (.block [99] [32] (by decide) (.ws _ _ (by decide) .nil))⟩
example : Trivia [32, 9, 10] := .ws _ _ (by decide) (.ws _ _ (by decide) (.ws _ _ (by decide) .nil))
example : Trivia ([47, 42] ++ ([120] ++ [42, 47]) ++ []) := .block [120] [] (by decide) .nil
example : sigs T [32, 47, 47, 120, 10, 97] = [(.ident, [97])] := by decide +kernel

end FerretVerif.C19
