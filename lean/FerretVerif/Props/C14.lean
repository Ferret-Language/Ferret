/-
  Props/C14.lean — C14: compilation is deterministic under every schedule.

  Kernel-checked here, over Model/Diag.lean (sortDiagnostics, tied to bag.go by the `diag-sort` correspondence) and
  Model/LitCounter.lean:
    * sortDiagnostics is a stable sort by (file, line) on located diagnostics: its output is sorted, keeps the arrival
      order inside each key, and is therefore IDENTICAL for any two arrival orders (interleavings of the goroutines)
      that agree on the relative order of same-key diagnostics — in particular whenever the concurrently running
      goroutines report into different files;
    * the hypothesis is needed (same-key witness) and diagnostics WITHOUT a label break the order altogether
      (the comparator is not transitive then; witness);
    * literal names: the ids a module draws from a shared counter (struct / interface / enum literals) are
      schedule-independent when it is the only drawer, and depend on the schedule as soon as two modules draw
      (witness); with one counter per source file (function literals) they are 1, 2, 3, … under every schedule.
  Byte equality of the generated code is observed (checks/c14.py), not proved.
-/
import FerretVerif.Proofs.DiagSort
import FerretVerif.Proofs.LitCounter

namespace FerretVerif.C14
open FerretVerif.Diag FerretVerif.LitCounter

/-- Output is ordered by (file, line). -/
theorem sorted_by_file_line (l : List D) (hl : ∀ d ∈ l, located d = true) : Sorted (sortDiags l) := sorted_sortDiags l hl

/-- Diagnostics of one (file, line) keep their arrival order (phase order). -/
theorem stable_within_key (k : Nat × Nat) (l : List D) (hl : ∀ d ∈ l, located d = true) : fk k (sortDiags l) = fk k l :=
  fk_sortDiags k l hl

/-- Arrival-order invariance. -/
theorem sort_arrival_invariant (l₁ l₂ : List D) (h1 : ∀ d ∈ l₁, located d = true) (h2 : ∀ d ∈ l₂, located d = true)
    (h : ∀ k, fk k l₁ = fk k l₂) : sortDiags l₁ = sortDiags l₂ := Diag.sort_arrival_invariant l₁ l₂ h1 h2 h

/-- Corollary for two goroutines reporting into different files: whichever delivers first, the emitted list is the same. -/
theorem two_goroutines_different_files (a b : List D) (ha : ∀ d ∈ a, located d = true) (hb : ∀ d ∈ b, located d = true)
    (hdis : ∀ x ∈ a, ∀ y ∈ b, x.fileKey ≠ y.fileKey) : sortDiags (a ++ b) = sortDiags (b ++ a) := by
  refine sort_arrival_invariant _ _ (fun d hd => (List.mem_append.1 hd).elim (ha d) (hb d))
    (fun d hd => (List.mem_append.1 hd).elim (hb d) (ha d)) fun k => ?_
  rw [fk_append, fk_append]
  -- no key occurs on both sides: one of the two parts is empty
  by_cases he : fk k a = []
  · rw [he, List.nil_append, List.append_nil]
  · obtain ⟨x, hx⟩ := List.exists_mem_of_ne_nil _ he
    have hb' : fk k b = [] := List.eq_nil_iff_forall_not_mem.2 fun y hy =>
      hdis x (mem_fk.1 hx).1 y (mem_fk.1 hy).1 (congrArg Prod.fst ((mem_fk.1 hx).2.trans (mem_fk.1 hy).2.symm))
    rw [hb', List.nil_append, List.append_nil]

/-- The hypothesis of `sort_arrival_invariant` is needed: two diagnostics on the same line of the same file are
    emitted in arrival order. -/
theorem same_key_witness :
    let d1 : D := ⟨.error, true, false, 5, 3, 1, 1⟩
    let d2 : D := ⟨.error, true, false, 5, 3, 9, 2⟩
    sortDiags [d1, d2] ≠ sortDiags [d2, d1] := by decide

/-- A diagnostic without label is incomparable with everything: the comparator is no strict weak order and the
    result depends on the arrival order even for different keys. -/
theorem unlabeled_breaks_order_witness :
    let a : D := ⟨.error, true, false, 2, 1, 1, 1⟩      -- file 2
    let n : D := ⟨.error, false, false, 0, 0, 0, 2⟩     -- no label
    let c : D := ⟨.error, true, false, 1, 1, 1, 3⟩      -- file 1
    (sortDiags [a, n, c]).map (·.id) = [1, 2, 3] ∧ (sortDiags [a, c, n]).map (·.id) = [3, 1, 2] := by decide

/-- A module that is the only one drawing from a counter gets the same ids under every schedule. -/
theorem single_drawer_ids (m n : Nat) : idsOf m (List.replicate n m) = (List.range n).map (· + 1) := by
  unfold idsOf
  -- every draw is `m`'s, and the ids are the positions
  rw [assign_eq_zipIdx, map_succ_range,
    List.filter_eq_self.2 fun p hp => beq_iff_eq.2 (List.eq_of_mem_replicate (List.fst_mem_of_mem_zipIdx hp))]
  exact (List.zipIdx_map_snd ..).trans (by rw [List.length_replicate])

/-- Two modules drawing from one counter: which ids a module gets depends on the schedule (the behaviour of function-literal
    names before the repair of F39, still the behaviour of the struct / interface / enum literal counters). -/
theorem two_drawers_witness : idsOf 0 [0, 1] = [1] ∧ idsOf 0 [1, 0] = [2] := by decide

/-- With one counter per source file, the ids a module's function literals receive are 1, 2, 3, … in its own program order,
    under EVERY schedule of the concurrently running parsers. -/
theorem func_lit_ids_schedule_independent (m : Nat) (s : Sched) :
    idsOfPerFile m s = (List.range (s.filter (· == m)).length).map (· + 1) :=
  (assignPerFile_ids m s []).trans (map_succ_range _).symm

example : idsOfPerFile 0 [0, 1, 0] = [1, 2] ∧ idsOfPerFile 0 [1, 0, 0] = [1, 2] := by decide

end FerretVerif.C14
