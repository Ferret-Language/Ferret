/-
  Props/C03.lean — C03: statically ill-typed programs are rejected.

  The type checker's traversal (checkNode / checkExpr, ~6 kLoC) is NOT modelled; what the kernel checks is the part of
  the property that is a finite decision table or pure bookkeeping:
    * over the compatibility table regenerated from the current checkTypeCompatibility (all 17 x 17 numeric pairs):
      an implicit conversion S -> T exists only when every value of S is a value of T — so implicit narrowing and
      float -> int conversion are impossible — and two different numeric types are never `identical`, so arithmetic
      between different numeric types has no common type without a cast;
    * an error recorded by any front phase yields exit status 1 and no output artefact (pipeline gate).
  That every ill-typed construct IS reported in every syntactic position is observed by checks/c03.py.
-/
import FerretVerif.Props.C11
import FerretVerif.Props.C13

namespace FerretVerif.C03
open FerretVerif.Num FerretVerif.Diag

/-- no implicit conversion loses a value: if some value of `src` is not a value of `tgt`, the pair is not implicit -/
theorem lossy_never_implicit :
    ∀ r ∈ Gen.losslessTable, (∃ v, Rep r.src v ∧ ¬ Rep r.tgt v) → r.compat ≠ .implicit ∧ r.compat ≠ .identical := by
  intro r hr ⟨v, hv, hnv⟩
  constructor
  · intro hc; exact hnv (C11.implicit_is_lossless r hr (Or.inl hc) v hv)
  · intro hc; exact hnv (C11.implicit_is_lossless r hr (Or.inr hc) v hv)

/-- float -> integer is never implicit -/
theorem float_to_int_needs_cast :
    ∀ r ∈ Gen.losslessTable, r.src.isFloat = true → r.tgt.isFloat = false → r.compat = .explicit := by
  intro r hr hs ht
  -- the types differ, and no float type's values all fit an integer type
  exact C11.others_need_cast r hr (fun e => by rw [e, ht] at hs; cases hs) fun hc =>
    not_lossless_float_int hs ht (C11.implicit_is_lossless r hr (.inl hc))

/-- narrowing between integer types (fewer bits) is never implicit -/
theorem narrowing_needs_cast :
    ∀ r ∈ Gen.losslessTable, r.src.isFloat = false → r.tgt.isFloat = false → r.tgt.bits < r.src.bits → r.compat = .explicit := by decide +kernel

/-- different numeric types are never the same type: mixed arithmetic has no common operand type without a cast -/
theorem distinct_types_not_identical :
    ∀ r ∈ Gen.losslessTable, r.src ≠ r.tgt → r.compat ≠ .identical :=
  fun r hr => Row.compat_ne_identical (C11.table_sound r hr)

/-- errors gate code generation: an error recorded by the front phases (type checker included) means exit status 1
    and no artefact, whatever the later phases would have reported -/
theorem type_error_fails_compilation (front mir codegen : List D) (skip : Bool) (h : ∃ d ∈ front, d.sev = .error) :
    (runPipeline front mir codegen skip).bag.exitStatus = 1 ∧ (runPipeline front mir codegen skip).artifact = false := by
  have h1 := C13.front_error_fails front mir codegen skip h
  refine ⟨h1, C13.errors_gate_codegen front mir codegen skip (Bool.of_not_eq_false fun hf => ?_)⟩
  rw [(exitStatus_eq_zero_iff _).2 hf] at h1
  cases h1

end FerretVerif.C03
