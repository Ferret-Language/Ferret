/-
  Props/C05.lean — C05: a non-void function always returns a value from a return statement.

  About Model/Cfg.lean: `implAllPathsReturn` is the compositional transcription of the CFG builder +
  AllPathsReturn of internal/hir/analysis/cfg.go (after the fixes of F3: open matches, function literals);
  `canFallOff` is the path semantics with nondeterministic conditions.  Tied to the compiler by checks/c05.py.
-/
import FerretVerif.Proofs.Cfg

namespace FerretVerif.C05
open FerretVerif.Cfg

/-- the analysis is EXACT for every body (any nesting of if/else, match ± default, while/for with
    break/continue, early returns, blocks): it accepts iff no path reaches the end of the body -/
theorem returns_exact (b : List Stmt) : implAllPathsReturn b = !canFallOff b := Cfg.returns_exact b

/-- soundness: an accepted body never falls off its end (so every call that returns, returns through a `return`) -/
theorem returns_sound (b : List Stmt) (hwf : wfL false b = true) (h : implAllPathsReturn b = true) : canFallOff b = false :=
  Cfg.returns_sound b hwf h

/-- no mis-rejection: a body all of whose paths return is accepted -/
theorem returns_complete (b : List Stmt) (hwf : wfL false b = true) (h : canFallOff b = false) : implAllPathsReturn b = true :=
  Cfg.returns_complete b hwf h

/-- a match with no default (and not covering an enum) can always fall through and is rejected when it ends
    the body, whatever its arms do; with a default or full enum coverage and returning arms it is accepted -/
theorem match_open_falls (cases : List (List Stmt)) :
    canFallOff [.matchS cases false false] = true ∧ implAllPathsReturn [.matchS cases false false] = false := by
  simp [Cfg.returns_exact, canFallOff_match]

/-- every kind of body — functions, methods, function literals — is analysed -/
theorem all_bodies_analysed : ∀ h : Host, analysed h = true := by
  intro h; cases h <;> rfl

/-- the builder's fall-through block is graph-reachable exactly when the incoming block is and some path falls through -/
theorem build_reach (l : List Stmt) (r k : Bool) :
    (buildL l (some r) k).1 = some true ↔ (r = true ∧ (outL l).falls = true) := Cfg.build_reach l r k

/-- the `coversEnum` flag of a match is computed exactly: it is set iff EVERY variant of the (non-empty) enum is named by an arm —
    of an enum of any size, with the arms in any order and any multiplicity — so whichever variant the scrutinee holds at run time,
    a covered match has an arm for it, and a match that is not covered has a concrete variant for which no arm exists -/
theorem covers_enum_exact (variants arms : List String) :
    matchCoversEnum variants arms = true ↔ variants ≠ [] ∧ ∀ v ∈ variants, v ∈ arms := by
  simp [matchCoversEnum]

theorem uncovered_has_witness (variants arms : List String) (hne : variants ≠ [])
    (h : matchCoversEnum variants arms = false) : ∃ v ∈ variants, v ∉ arms := by
  have hcov := mt (covers_enum_exact variants arms).mpr (Bool.eq_false_iff.mp h)
  obtain ⟨v, hv⟩ := Classical.not_forall.mp (not_and.mp hcov hne)
  exact ⟨v, Classical.not_imp.mp hv⟩

/-- coverage does not depend on how many variants there are: the 65th variant counts like the first -/
theorem covers_needs_every_position (pre post : List String) (v : String) (arms : List String) (h : v ∉ arms) :
    matchCoversEnum (pre ++ v :: post) arms = false := by
  cases hc : matchCoversEnum (pre ++ v :: post) arms with
  | false => rfl
  | true => exact absurd (((covers_enum_exact _ _).mp hc).2 v (by simp)) h

-- non-vacuity / regression witnesses
example : wfL false [.whileS true [.ifS [.brk] none], .ret] = true ∧ implAllPathsReturn [.whileS true [.ifS [.brk] none], .ret] = true := by decide
example : implAllPathsReturn [.matchS [[.ret], [.ret]] false false] = false ∧ implAllPathsReturn [.matchS [[.ret], [.ret]] true false] = true := by decide

end FerretVerif.C05
