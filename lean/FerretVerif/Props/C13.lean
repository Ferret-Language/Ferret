/-
  Props/C13.lean — C13: the compiler is total and reports failure faithfully.

  Kernel-checked here: the lexer loop (Model/Lexer.lean, tied to tokenizer.go by the regenerated pattern table
  `Gen.lexOps` and by byte-level correspondence) makes progress on every input and terminates within
  `|input|` iterations, its token list ends with exactly one end-of-file token placed at the end of the input;
  the diagnostic bag's counters are exact for every sequence of Add calls (hence for every interleaving of the
  goroutines, Add being atomic under the mutex); exit status 0 ⟺ no error diagnostic was recorded/printed;
  a recorded error prevents the output artefact.  Crashes (nil dereferences) and hangs of the ~20 kLoC of later
  Go phases have no model counterpart: they are observed by the whole-compiler monitor of checks/c13.py.
-/
import FerretVerif.Proofs.Lexer
import FerretVerif.Proofs.Diag
import FerretVerif.Gen.LexTables

namespace FerretVerif.C13
open FerretVerif.Lexer FerretVerif.Diag

/-- the tables of the CURRENT tokenizer (regenerated on every run) -/
def T : Tables := ⟨Gen.lexOps, Gen.lexKeywords⟩

/-- every operator pattern's handler consumes exactly the non-empty text its regex matched -/
theorem tables_ok : TablesOk T := by decide +kernel

/-- Progress: each iteration of Tokenize consumes between 1 and |rest| bytes, for every input. -/
theorem tokenize_progress (s : List Byte) (hs : s ≠ []) : 1 ≤ (step T s).n ∧ (step T s).n ≤ s.length :=
  step_bounds tables_ok hs

/-- Totality: `|s|` iterations always suffice (more fuel changes nothing): Tokenize terminates on every input. -/
theorem tokenize_total (s : List Byte) (extra : Nat) :
    lexLoop T (s.length + extra) Pos.start s = lex T s :=
  lexLoop_fuel tables_ok Pos.start (Nat.le_add_right ..) (Nat.le_refl _)

/-- The token list is `front ++ [EOF]` with no EOF inside `front`. -/
theorem tokens_end_with_eof (s : List Byte) :
    ∃ front e, (lex T s).toks = front ++ [e] ∧ e.kind = .eof ∧ ∀ t ∈ front, t.kind ≠ .eof :=
  lexLoop_shape T s.length Pos.start s

/-- The EOF token sits at byte offset |s|: the loop consumed the whole input, nothing more. -/
theorem eof_at_end (s : List Byte) : ∀ e ∈ (lex T s).toks, e.kind = .eof → e.start.idx = s.length := by
  intro e he hk
  have := lexLoop_eof_idx tables_ok s.length Pos.start s (Nat.le_refl _) e he hk
  simpa [Pos.start] using this

/-- At most one lexer diagnostic per input byte. -/
theorem lexer_errors_bounded (s : List Byte) : (lex T s).errs ≤ s.length :=
  lexLoop_errs_le tables_ok s.length Pos.start s

/-- For ANY sequence of Add calls the error counter equals the number of error diagnostics recorded. -/
theorem error_count_exact (adds : List D) :
    (addAll Bag.empty adds).errorCount = (adds.filter isErr).length := by
  rw [(addAll_empty_inv adds).1, addAll_empty_diags]

/-- Exit status 0 exactly when no error diagnostic is in the bag (= printed by EmitAll). -/
theorem exit_zero_iff_no_error_diag (adds : List D) :
    (addAll Bag.empty adds).exitStatus = 0 ↔ (addAll Bag.empty adds).printedErrors = [] :=
  (exitStatus_eq_zero_iff _).trans (printedErrors_eq_nil_iff _ (addAll_empty_inv adds)).symm

/-- A failing compilation printed at least one error diagnostic. -/
theorem failure_has_error_diag (adds : List D) :
    (addAll Bag.empty adds).exitStatus ≠ 0 → ∃ d ∈ adds, d.sev = .error := by
  intro h
  rwa [Ne, exitStatus_eq_zero_iff, Bool.not_eq_false, hasErrors_iff _ (addAll_empty_inv adds), addAll_empty_diags] at h

/-- Errors gate code generation: whatever the phases report, a run that ends with an error in the bag has written
    no artefact, and a run that wrote one ends with exit status 0. -/
theorem errors_gate_codegen (front mir codegen : List D) (skip : Bool) :
    (runPipeline front mir codegen skip).bag.hasErrors = true → (runPipeline front mir codegen skip).artifact = false := by
  fun_cases runPipeline front mir codegen skip <;> intro h
  · rfl
  · rfl
  · rfl
  · rw [Bool.not_eq_false']; exact h

theorem artifact_implies_exit_zero (front mir codegen : List D) (skip : Bool) :
    (runPipeline front mir codegen skip).artifact = true → (runPipeline front mir codegen skip).bag.exitStatus = 0 := by
  intro ha
  unfold Bag.exitStatus Bag.success
  cases h : (runPipeline front mir codegen skip).bag.hasErrors with
  | false => simp
  | true => rw [errors_gate_codegen _ _ _ _ h] at ha; cases ha

/-- An error recorded by the front phases is never lost: the run fails. -/
theorem front_error_fails (front mir codegen : List D) (skip : Bool) (h : ∃ d ∈ front, d.sev = .error) :
    (runPipeline front mir codegen skip).bag.exitStatus = 1 := by
  have hb : (addAll Bag.empty front).hasErrors = true := by
    rwa [hasErrors_iff _ (addAll_empty_inv front), addAll_empty_diags]
  unfold runPipeline
  simp [hb, Bag.exitStatus, Bag.success]

-- non-vacuity / sanity (tests, not the claims)
-- `a-1 // t`: identifier, the number `-1` (the sign belongs to the literal), a comment, EOF
example : ((lex T [97, 45, 49, 32, 47, 47, 32, 116]).toks.map (·.kind)) = [.ident, .number, .comment, .eof] := by decide +kernel
example : (lex T [35, 36]).errs = 2 := by decide +kernel        -- `#$`: two unrecognised bytes, two diagnostics
example : (runPipeline [] [] [] false).artifact = true := by decide
example : (runPipeline [⟨.warning, false, false, 0, 0, 0, 0⟩] [] [⟨.error, false, false, 0, 0, 0, 1⟩] false).artifact = false := by decide

end FerretVerif.C13
