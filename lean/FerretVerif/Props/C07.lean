/-
  Props/C07.lean — C07: references obey aliasing-xor-mutation and never outlive their referent.

  Model/Borrow.lean states the discipline on straight-line event sequences (borrow into a reference variable, use of
  a reference, read / write of a place, temporary borrow for a call): a loan lives until the last use of its
  reference.  Kernel-checked:
    * path overlap is reflexive and symmetric, a path overlaps all its extensions, different fields under a common
      field prefix are disjoint, everything below an index overlaps;
    * in every run the checker accepts, the set of live loans satisfies aliasing-XOR-mutation after every event
      (no two live loans on overlapping places unless both are shared), every accepted write touches no loaned
      place, every accepted read no mutably loaned place, borrows likewise;
    * a loan is kept exactly while its reference is still used (never dropped early, never kept after the last use);
    * returning a reference is rejected exactly when it points into the callee's frame, through reference chains of
      any length.
  The model is compared with the real borrow checker on generated event sequences rendered as Ferret programs
  (checks/c07.py), which also run accepted programs to observe write-through.  Loops, closures and references obtained
  from calls are covered by fixed programs only.
-/
import FerretVerif.Proofs.Borrow

namespace FerretVerif.C07
open FerretVerif.Borrow

theorem overlap_reflexive (a : List Seg) : overlap a a = true := by
  simpa [overlap] using overlap_append a [] []
theorem overlap_symmetric (a b : List Seg) : overlap a b = overlap b a := overlap_symm a b
theorem borrow_covers_subplaces (a b : List Seg) : overlap a (a ++ b) = true := by
  simpa [overlap] using overlap_append a [] b
theorem disjoint_fields (pre : List Seg) (hpre : ∀ s ∈ pre, s ≠ .idx) (f g : Nat) (h : f ≠ g) (a b : List Seg) :
    overlap (pre ++ .fld f :: a) (pre ++ .fld g :: b) = false := by
  simpa [overlap_append, overlap, h] using hpre
theorem indices_alias (pre a b : List Seg) : overlap (pre ++ .idx :: a) (pre ++ .idx :: b) = true := by
  simp [overlap_append, overlap]

/-- aliasing XOR mutation holds after every event of every accepted run -/
theorem accepted_runs_keep_axm (es : List Event) (h : accepts es = true) : ∀ k, AXM (liveAfter [] es k) :=
  accepted_run_axm 0 [] es trivial (Option.isNone_iff_eq_none.mp h)

/-- what an accepted event may touch, given the loans live at that moment -/
theorem accepted_event_sound (i : Nat) (live : List Loan) (e : Event) (rest : List Event) (hacc : check i live (e :: rest) = none) :
    match e with
    | .write p => ∀ l ∈ live, l.place.overlaps p = false
    | .read p => ∀ l ∈ live, l.place.overlaps p = true → l.isMut = false
    | .borrow _ p m | .temp p m => ∀ l ∈ live, l.place.overlaps p = true → m = false ∧ l.isMut = false
    | .use _ => True := by
  have hc := ((check_cons_eq_none_iff i live e rest).mp hacc).1
  cases e with
  | use r => trivial
  | write p => exact (writeConflicts_eq_false_iff live p).mp hc
  | read p => exact (readConflicts_eq_false_iff live p).mp hc
  | borrow r p m => exact (borrowConflicts_eq_false_iff live p m).mp hc
  | temp p m => exact (borrowConflicts_eq_false_iff live p m).mp hc

theorem loan_lives_while_used (live : List Loan) (rest : List Event) (l : Loan) (hl : l ∈ live) (hu : usedLater l.ref rest = true) :
    l ∈ expire live rest := by
  simp [expire, hl, hu]
theorem loan_ends_after_last_use (live : List Loan) (rest : List Event) (l : Loan) (hu : usedLater l.ref rest = false) :
    l ∉ expire live rest := by
  simp [expire, hu]

/-! ### a function cannot return a reference to one of its locals -/

/-- EXACTNESS, for reference chains of any length: a return is rejected exactly when the returned reference points into the
    callee's frame — a local value, a by-value parameter or receiver, directly or through any number of local reference
    variables bound to one another; a reference that points outside (through a reference parameter) may be returned, also
    re-borrowed through local reference variables -/
theorem return_rejected_iff_dangling (f : RetForm)
    (hwf : match f with | .ident v => v.isRefVar = true | .borrow _ => True) : retRejects f = f.dangling := by
  cases f with
  | borrow v =>
    cases v with
    | localVal | paramVal | paramRef => rfl
    | refTo w => exact bindingBase_refused_eq (.refTo w) rfl
  | ident v => exact bindingBase_refused_eq v hwf

theorem dangling_return_rejected (f : RetForm)
    (hwf : match f with | .ident v => v.isRefVar = true | .borrow _ => True) (h : f.dangling = true) : retRejects f = true := by
  rw [return_rejected_iff_dangling f hwf]; exact h

/-- the check as delivered had two defects, both repaired: by-value parameters were not refused
    (`fn f(p: P) -> &i32 { return &p.Y; }` was accepted and returned a pointer into the dead frame), and a re-borrow through a
    local reference variable was refused even when that variable points outside
    (`fn f(p: &'P) -> &'i32 { let q: &'P = p; return &'q.Y; }`) -/
theorem old_value_param_witness :
    retRejectsOld (.borrow .paramVal) = false ∧ (RetForm.borrow .paramVal).dangling = true ∧ retRejects (.borrow .paramVal) = true := by decide
theorem old_reborrow_overstrict_witness :
    retRejectsOld (.borrow (.refTo .paramRef)) = true ∧ (RetForm.borrow (.refTo .paramRef)).dangling = false
      ∧ retRejects (.borrow (.refTo .paramRef)) = false := by decide

example : retRejects (.ident (.refTo (.refTo (.refTo .localVal)))) = true ∧ retRejects (.ident (.refTo (.refTo .paramRef))) = false := by decide

-- examples: `let m = &'x.A; x.A = 1; use m` is rejected at the write, with the use removed it is accepted; disjoint fields are fine
example : check 0 [] [.borrow 0 ⟨1, [.fld 0]⟩ true, .write ⟨1, [.fld 0]⟩, .use 0] = some 1 := by decide
example : accepts [.borrow 0 ⟨1, [.fld 0]⟩ true, .write ⟨1, [.fld 0]⟩] = true := by decide
example : accepts [.borrow 0 ⟨1, [.fld 0]⟩ true, .write ⟨1, [.fld 1]⟩, .use 0] = true := by decide
example : accepts [.borrow 0 ⟨1, []⟩ false, .borrow 1 ⟨1, [.fld 0]⟩ false, .read ⟨1, []⟩, .use 0, .use 1] = true := by decide

end FerretVerif.C07
