/-
  Props/C09.lean — C09: behaviour does not depend on what the compiler can evaluate early.

  What is kernel-checked is about the REFERENCE semantics (Core/Eval.lean), i.e. that the rewrites of the property
  really are meaning-preserving there: `if true { body }` runs exactly `body`, `if false { … }` runs nothing, a
  `const` declaration executes like the `let` it replaces, and evaluating integer arithmetic on literals early
  (unbounded, as a constant folder does) agrees with the run-time result exactly when the unbounded result is in the
  type's range — otherwise the run-time result is the wrapped one, so a compiler must wrap (or reject) and never keep
  the unbounded value.  The compiler's own folding/propagation code (typechecker big.Int folding, HIR consteval,
  MIR constant use) is NOT modelled; the 8/16-bit register arithmetic of the QBE emitter IS (regenerated selection table, below): checks/c09.py executes pairs (program, rewritten
  program) on both back ends and compares acceptance and output with each other and with this semantics.
-/
import FerretVerif.Props.C01

namespace FerretVerif.C09
open FerretVerif.Core

/-- wrapping statements in `if true { }` : the statement runs exactly the wrapped block -/
theorem if_true_runs_block (ctx : Ctx) (fuel : Nat) (env : Env) (ret : Ty) (body els : List Stmt) :
    execS ctx (fuel + 2) env ret (.ifS (.blit true) body els) = (do
      let (fl, _) ← execBlock ctx (fuel + 1) env ret body
      pure (fl, env)) := execS_if_const ctx (fuel + 1) env ret _ true body els (evalE_blit ..)

theorem if_false_runs_nothing (ctx : Ctx) (fuel : Nat) (env : Env) (ret : Ty) (body : List Stmt) :
    execS ctx (fuel + 2) env ret (.ifS (.blit false) body []) = pure (.next, env) :=
  (execS_if_const ctx (fuel + 1) env ret _ false body [] (evalE_blit ..)).trans rfl

/-- declaring a never-reassigned `let` as `const` -/
theorem const_runs_like_let (ctx : Ctx) (fuel : Nat) (env : Env) (ret : Ty) (x : String) (t : Ty) (e : Expr) :
    execS ctx fuel env ret (.constS x t e) = execS ctx fuel env ret (.letS x t e) := by
  cases fuel <;> rfl

/-- early evaluation of literal arithmetic: the run-time value is the wrapped sum … -/
theorem literal_add_wraps (ctx : Ctx) (fuel : Nat) (env : Env) (bits : Nat) (s : Bool) (a b : Int) :
    evalE ctx (fuel + 2) env (.bin .add (.int bits s) (.lit (.int bits s) a) (.lit (.int bits s) b))
      = pure (.int (wrapInt bits s (wrapTy (.int bits s) a + wrapTy (.int bits s) b))) := evalE_add_lits ctx fuel env bits s a b

/-- … and an unbounded (big-integer) fold `v` may be used in its place iff `v` is in the type's range. -/
theorem fold_sound_iff_in_range {bits : Nat} (h : 1 ≤ bits) (s : Bool) (v : Int) :
    wrapInt bits s v = v ↔ InRange bits s v :=
  ⟨fun e => e ▸ wrapInt_inRange h s v, wrapInt_id_of_in_range h s v⟩

-- the canonical trap: i8 127 + 1 folded without wrapping is 128, at run time it is -128
example : wrapInt 8 true (127 + 1) = -128 ∧ ¬ InRange 8 true 128 := by decide

/-! ### 8/16-bit register arithmetic: a result computed at run time is the folded one

A constant folder computes `wrap (a op b)`; the emitted code computes on 32-bit temporaries.  For every row of the regenerated
selection table (the IL the current compiler emits) the temporary after the sequence is the CANONICAL temporary of that folded
value — the same bits a load of the folded constant from memory produces — so no later use (compare, widen, divide, print) can
tell an early-evaluated operand from a late one. -/
section Selection
open FerretVerif.QbeSem

theorem runtime_arith_is_folded (r : QbeSem.Row) (hr : r ∈ Gen.qbeSel) (hk : r.kind = .bin) (a b : Int)
    (ha : r.src.inRange a) (hb : r.src.inRange b) (w : Int) (hw : specBin r.op r.src a b = some w)
    (hno : ¬ ((r.op = "div" ∨ r.op = "rem") ∧ r.src.signed = true ∧ overflows r.src a b)) :
    exec [canon r.src a, canon r.src b] [] r.seq = some (canon r.src w) :=
  C01.sel_binary_correct r hr hk a b w ha hb hw hno

/-- a cast executed at run time is the cast folded: wrap to the target type, in canonical form -/
theorem runtime_cast_is_folded (r : QbeSem.Row) (hr : r ∈ Gen.qbeSel) (hk : r.kind = .cast) (a : Int) (ha : r.src.inRange a) :
    exec [canon r.src a] [] r.seq = some (canon r.dst (r.dst.wrap a)) := by
  have := C01.sel_table_correct r hr [a] (by intro x hx; simp at hx; subst hx; exact ha) (canon r.dst (r.dst.wrap a))
    (by simp only [rowSpec, hk])
  simpa using this

/-- a value that travelled through memory (a field, an element, a by-value copy) comes back as the same canonical temporary:
    8/16-bit values are truncated by the store and re-extended by the load exactly as the register arithmetic re-normalises them.
    `hl` is not used: `C01.mem_table_correct`. -/
theorem memory_roundtrip_is_identity (r : QbeSem.MemRow) (hr : r ∈ Gen.qbeMem) (hl : r.ty ∈ legalTys) (v : Int) (hv : r.ty.inRange v) :
    (memStore r.store (canon r.ty v)).bind (memLoad r.cls r.load) = some (canon r.ty v) :=
  C01.mem_table_correct r hr v hv

end Selection

end FerretVerif.C09
