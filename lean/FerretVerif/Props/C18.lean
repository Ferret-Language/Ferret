/-
  Props/C18.lean — C18: composite values keep every component intact (layout soundness).

  About Model/Layout.lean (transcription of internal/mir/layout.go + the offset formulas of its consumers),
  for EVERY pointer size that is a power of two (4 and 8 are the real ones) and EVERY type expression
  (any nesting of structs, fixed arrays, optionals, results over primitives of 0/1/2/4/8/16/32 bytes).
  The model is tied to the Go code on every run by checks/c18.py (gohook layout).
-/
import FerretVerif.Proofs.Layout
import FerretVerif.Proofs.WasmAlloc

namespace FerretVerif.C18
open FerretVerif.Layout

/-- every alignment is a power of two -/
theorem align_pow2 {ps : Nat} (hps : IsPow2 ps) (t : Ty) (h : WfTy t) : IsPow2 (alignOf ps t) :=
  Layout.align_pow2 hps t h

/-- a type's size is a multiple of its alignment: array strides keep every element aligned -/
theorem size_mult_align {ps : Nat} (hps : IsPow2 ps) (t : Ty) (h : WfTy t) : alignOf ps t ∣ sizeOf ps t :=
  Layout.size_mult_align hps t h

/-- every struct field sits at a multiple of its own alignment -/
theorem fields_aligned {ps : Nat} (hps : IsPow2 ps) (fs : List Ty) (hwf : WfTys fs) (i : Nat) (hi : i < fs.length) :
    alignOf ps fs[i] ∣ (fieldOffsets ps fs 0)[i]'(by rw [fieldOffsets_length]; exact hi) :=
  Layout.fields_aligned hps fs hwf i hi

/-- a field's alignment divides the struct's, so a struct placed at an aligned address keeps it aligned -/
theorem field_addr_aligned {ps : Nat} (hps : IsPow2 ps) {fs : List Ty} (hwf : WfTys fs)
    {f : Ty} (hf : f ∈ fs) {base o : Nat} (hb : alignOf ps (.struct fs) ∣ base)
    (ho : alignOf ps f ∣ o) : alignOf ps f ∣ base + o :=
  Nat.dvd_add (Nat.dvd_trans (field_align_dvd_struct hps hwf hf) hb) ho

/-- distinct fields never overlap (any pointer size, any field types) -/
theorem fields_disjoint (ps : Nat) (fs : List Ty) (i j : Nat) (hij : i < j) (hj : j < fs.length) :
    (fieldOffsets ps fs 0)[i]'(by rw [fieldOffsets_length]; omega) + sizeOf ps (fs[i]'(by omega))
      ≤ (fieldOffsets ps fs 0)[j]'(by rw [fieldOffsets_length]; exact hj) := by
  have h := List.pairwise_iff_getElem.mp (fieldOffsets_spec ps fs 0).2 i j
    (by rw [List.length_zip, fieldOffsets_length, Nat.min_self]; omega)
    (by rw [List.length_zip, fieldOffsets_length, Nat.min_self]; exact hj) hij
  rwa [List.getElem_zip, List.getElem_zip] at h

/-- every field lies inside the struct -/
theorem fields_in_bounds (ps : Nat) (fs : List Ty) (i : Nat) (hi : i < fs.length) :
    (fieldOffsets ps fs 0)[i]'(by rw [fieldOffsets_length]; exact hi) + sizeOf ps fs[i] ≤ sizeOf ps (.struct fs) :=
  Nat.le_trans ((fieldOffsets_spec ps fs 0).1 _ (getElem_mem_zip_fieldOffsets ps fs 0 i hi)).2.2 (le_alignTo _ _)

/-- the is-some flag of `T?` lies after the payload and inside the object -/
theorem optional_flag_after_payload (ps : Nat) (inner : Ty) :
    sizeOf ps inner ≤ optFlagOff ps inner ∧ optFlagOff ps inner < sizeOf ps (.opt inner) :=
  Layout.optional_flag_after_payload ps inner

/-- the ok/err tag of `E ! T` (as computed by the CONSUMER, resultTagOffset) lies after both payloads
    and inside the object whose size the PRODUCER (SizeOf) computes -/
theorem result_tag_after_union (ps : Nat) (ok err : Ty) :
    sizeOf ps ok ≤ resTagOff ps ok err ∧ sizeOf ps err ≤ resTagOff ps ok err ∧
      resTagOff ps ok err < sizeOf ps (.res ok err) := Layout.result_tag_after_union ps ok err

/-- consumer and producer agree on the result layout -/
theorem consumers_agree (ps : Nat) (ok err : Ty) :
    sizeOf ps (.res ok err) = alignTo (resTagOff ps ok err + 1) (max (alignOf ps ok) (alignOf ps err)) := by
  rw [resTagOff_eq, Layout.sizeOf]
  exact alignTo_max_one _ _

/-- array elements are pairwise disjoint and inside the array … -/
theorem array_elems_disjoint (ps : Nat) (e : Ty) {i j n : Nat} (hij : i < j) (hjn : j < n) :
    i * sizeOf ps e + sizeOf ps e ≤ j * sizeOf ps e ∧ j * sizeOf ps e + sizeOf ps e ≤ sizeOf ps (.arr e n) :=
  Layout.array_elems_disjoint ps e hij hjn

/-- … and each is aligned -/
theorem array_elem_aligned {ps : Nat} (hps : IsPow2 ps) {e : Ty} (hwf : WfTy e) (i : Nat) :
    alignOf ps e ∣ i * sizeOf ps e :=
  Nat.dvd_trans (Layout.size_mult_align hps e hwf) (Nat.dvd_mul_left _ _)

/-- offsets the C runtime (io.c) hard-codes for `str ! i32`, `str ! f64`, `str ! str` at pointer size 8 -/
theorem io_c_hardcoded_offsets_ok :
    (sizeOf 8 (.res .ptr (.prim 4)) = 16 ∧ resTagOff 8 .ptr (.prim 4) = 8) ∧
    (sizeOf 8 (.res .ptr (.prim 8)) = 16 ∧ resTagOff 8 .ptr (.prim 8) = 8) ∧
    (sizeOf 8 (.res .ptr .ptr) = 16 ∧ resTagOff 8 .ptr .ptr = 8) := Layout.io_c_hardcoded_offsets_ok

-- non-vacuity: a nested composite satisfies the hypotheses, at both pointer sizes
example : WfTy exTy ∧ IsPow2 8 ∧ IsPow2 4 := ⟨by decide, ⟨3, rfl⟩, ⟨2, rfl⟩⟩
example : fieldOffsets 8 exFields 0 = [0, 8, 16, 48] ∧ fieldOffsets 4 exFields 0 = [0, 4, 12, 36] := by decide
example : (fieldOffsets 4 exFields 0)[2] + sizeOf 4 exFields[2] ≤ (fieldOffsets 4 exFields 0)[3] :=
  fields_disjoint 4 exFields 2 3 (by decide) (by decide)

/-! ### the heap of the wasm runtime (runtime.js `ferret_alloc`), where composites behind references, dynamic arrays and
    strings live on the wasm target: tied to the shipped runtime.js by checks/c18.py (lane `wasm-alloc`) -/

open FerretVerif.WasmAlloc in
/-- For EVERY data-segment end, initial memory that contains it and EVERY sequence of allocation sizes: each block handed out
    lies inside the memory as it is after the run (so writing any of its bytes cannot trap), starts 8-aligned, and two
    different blocks never overlap: storing into one composite cannot change another.  `hfit` is not used:
    `WasmAlloc.run_spec`. -/
theorem wasm_heap_blocks_intact (dataEnd pages : Nat) (hfit : align8 dataEnd ≤ pages * page) (sizes : List Nat) :
    let r := run (bind dataEnd pages) sizes
    r.2.length = sizes.length ∧
    (∀ b ∈ r.2, align8 dataEnd ≤ b.1 ∧ b.1 + b.2 ≤ r.1.mem ∧ b.1 % 8 = 0) ∧
    (r.2.Pairwise fun b c => b.1 + b.2 ≤ c.1) := by
  obtain ⟨_, i3, i4, i5⟩ := run_spec (bind dataEnd pages) sizes (align8_mod dataEnd)
  -- a block exists only after an allocation, and then the bump pointer lies inside the memory
  have i1 := fun b (hb : b ∈ (run (bind dataEnd pages) sizes).2) =>
    (i5 (Or.inr fun h => by rw [h] at hb; cases hb)).1
  exact ⟨run_length _ _, fun b hb => ⟨(i3 b hb).1, Nat.le_trans (i3 b hb).2.1 (i1 b hb), (i3 b hb).2.2⟩, i4⟩

open FerretVerif.WasmAlloc in
/-- … and at the moment a block is handed out it already lies inside the memory (the memory is grown before the address
    is returned, and never shrinks afterwards).  `h` is not used: `WasmAlloc.alloc_spec`. -/
theorem wasm_alloc_in_memory (s : St) (n : Nat) (h : Inv s) :
    (alloc s n).2 + n ≤ (alloc s n).1.mem ∧ Inv (alloc s n).1 ∧ s.mem ≤ (alloc s n).1.mem :=
  have ⟨hinv, hblock, hmem, _⟩ := alloc_spec s n
  ⟨hblock, hinv, hmem⟩

open FerretVerif.WasmAlloc in
/-- why growing matters (the allocator as shipped before the repair F68 never grew the memory): with the growth removed,
    a second page-sized block already ends outside a one-page memory -/
theorem wasm_alloc_without_growth_witness :
    let noGrow (s : St) (n : Nat) : St × Nat := (⟨align8 (s.heap + n), s.mem⟩, s.heap)
    let s1 := (noGrow (bind 1024 1) 40000).1
    ¬ ((noGrow s1 40000).2 + 40000 ≤ (noGrow s1 40000).1.mem) := by decide

-- non-vacuity: a bound runtime satisfies the hypothesis, and a run that must grow the memory
open FerretVerif.WasmAlloc in
example : align8 1024 ≤ 1 * page ∧ (run (bind 1024 1) [40000, 40000, 3]).2 = [(1024, 40000), (41024, 40000), (81024, 3)]
    ∧ (run (bind 1024 1) [40000, 40000, 3]).1 = ⟨81032, 131072⟩ := by decide +kernel

end FerretVerif.C18
