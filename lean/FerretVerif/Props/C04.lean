/-
  Props/C04.lean — C04: fixed-size array accesses are in bounds and hit the indexed element.
  The arithmetic core is shared with C08 (Model/Bounds.lean): constant indices are checked at compile time by
  `staticIndex`, run-time indices by `implIndex`; both equal the specified normalisation, whose results are
  in bounds.  Which index VALUE reaches these checks is decided by the compiler's constant propagation, which is
  NOT modelled: it is tied by checks/c04.py (F2, flow-insensitive propagation of `let` indices, was fixed in /repo).
-/
import FerretVerif.Props.C08

namespace FerretVerif.C04
open FerretVerif.Bounds

/-- a constant index is accepted exactly when it lies in [-N, N) and then denotes the specified element -/
theorem static_bounds_exact (i : Int) (n : Nat) : staticIndex i n = normIndex i n := C08.static_bounds_exact i n

/-- an accepted constant index denotes an element INSIDE the array -/
theorem static_index_in_bounds (i : Int) (n j : Nat) (h : staticIndex i n = some j) : j < n :=
  ((staticIndex_eq_some i n j).mp h).1

/-- the element selected is `i` for non-negative and `N + i` for negative indices -/
theorem norm_index_value (i : Int) (n j : Nat) (h : normIndex i n = some j) : (j : Int) = if i < 0 then (n : Int) + i else i :=
  ((normIndex_eq_some i n j).mp h).2

/-- the run-time check (element writes through computed indices) agrees with the specification.  `hl` is not used:
    `Bounds.implIndex_lt`. -/
theorem fixed_write_in_bounds (i : Int) (n : Nat) (hl : (n : Int) < 2147483648)
    (j : Nat) (h : implIndex i n = some j) : j < n :=
  implIndex_lt h

example : staticIndex (-1) 3 = some 2 ∧ staticIndex 3 3 = none ∧ staticIndex (-4) 3 = none := by decide

end FerretVerif.C04
