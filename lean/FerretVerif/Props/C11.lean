/-
  Props/C11.lean — C11: implicit numeric conversions never lose information.

  `Gen.losslessTable` is REGENERATED on every run by executing the real
  `checkTypeCompatibility` / `isLosslessNumericConversion` on all 17 × 17 ordered
  pairs of numeric types (harness/gohook `lossless-table`); the theorems below are
  re-checked by the kernel against that regenerated table.
-/
import FerretVerif.Proofs.Num
import FerretVerif.Gen.LosslessTable

namespace FerretVerif.C11
open FerretVerif.Num

/-- the table really covers the whole finite domain: every ordered pair once -/
theorem table_covers_all_pairs :
    Gen.losslessTable.map (fun r => (r.src, r.tgt))
      = NumTy.all.flatMap (fun s => NumTy.all.map (fun t => (s, t))) := by decide +kernel

/-- the model's width / signedness / float-ness of each type is what the code says -/
theorem prim_table_matches :
    Gen.primTable = NumTy.all.map (fun t => (t, t.bits, t.isSigned, t.isFloat, t.bits / 8)) := by
  decide +kernel

/-- decidable form over the regenerated table -/
theorem table_sound : ∀ r ∈ Gen.losslessTable, r.sound = true := by decide +kernel

/-- C11, first half: wherever the compiler classifies S → T as implicit (or identical),
    EVERY value of S is exactly a value of T. -/
theorem implicit_is_lossless :
    ∀ r ∈ Gen.losslessTable, (r.compat = .implicit ∨ r.compat = .identical) →
      ∀ v, Rep r.src v → Rep r.tgt v := by
  intro r hr hc
  rcases hc with hc | hc
  · exact (losslessDec_iff r.src r.tgt).1 ((Row.sound_iff.1 (table_sound r hr)).2 hc)
  · -- an `identical` row is between equal types
    have e : r.src = r.tgt := Decidable.not_not.1 fun hne => Row.compat_ne_identical (table_sound r hr) hne hc
    exact fun v hv => e ▸ hv

/-- C11, second half: every other conversion between distinct numeric types needs the cast
    (is classified explicit, never silently accepted and never impossible). -/
theorem others_need_cast :
    ∀ r ∈ Gen.losslessTable, r.src ≠ r.tgt → r.compat ≠ .implicit → r.compat = .explicit := by
  intro r hr hne hni
  have h1 := (Row.sound_iff.1 (table_sound r hr)).1 hne
  split at h1
  · exact absurd h1 hni
  · exact h1

/-- the classification agrees with the raw table function on distinct types -/
theorem implicit_iff_table_entry :
    ∀ r ∈ Gen.losslessTable, r.src ≠ r.tgt → (r.compat = .implicit ↔ r.lossless = true) := by
  intro r hr hne
  rw [(Row.sound_iff.1 (table_sound r hr)).1 hne]
  split <;> simp [*]

-- non-vacuity: the table has implicit rows, and they are about non-trivial value sets
example : ∃ r ∈ Gen.losslessTable, r.compat = .implicit ∧ r.src = .i32 ∧ r.tgt = .f64 := by decide +kernel
example : Rep .i32 ((2 ^ 31 - 1 : Int) * ((2 ^ E : Nat) : Int)) := by
  unfold Rep; exact ⟨2 ^ 31 - 1, by decide, by decide, rfl⟩
-- the decision procedure rejects exactly the suspicious pairs (sanity; tests, not the claim)
example : losslessDec .i64 .f64 = false ∧ losslessDec .i32 .f64 = true ∧ losslessDec .u64 .f128 = true
    ∧ losslessDec .i128 .f128 = false ∧ losslessDec .f64 .f32 = false ∧ losslessDec .f32 .i256 = false
    ∧ losslessDec .byte .u8 = true := by decide +kernel

end FerretVerif.C11
