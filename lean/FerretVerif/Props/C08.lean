/-
  Props/C08.lean — C08 (and the run-time half of C04): bounds checks.
  About Model/Bounds.lean; the compiled behaviour is tied to the reference interpreter by checks/c08.py, c04.py.
-/
import FerretVerif.Proofs.Bounds

namespace FerretVerif.C08
open FerretVerif.Bounds

/-- for every index representable in i32 and every length below 2^31, the emitted check sequence accepts
    exactly the indices valid for the CURRENT length (negative ones counting from the end) and selects
    exactly the specified element; everything else panics -/
theorem dyn_index_checked_i32 (i : Int) (len : Nat) (hl : (len : Int) < 2147483648)
    (h1 : -(2147483648 : Int) ≤ i) (h2 : i < 2147483648) : checked32 (wrapS 32 i) len = normIndex i len := by
  rw [wrapS32_id i h1 h2, checked32_eq_staticIndex i len fun hneg => wrapS32_id _ (by omega) (by omega),
    staticIndex_eq_normIndex]

/-- FULL statement, over EVERY integer index value (any source type up to 64 bits): the compiled check is the
    specified normalisation — in particular a value outside the i32 range always panics -/
theorem dyn_index_checked (i : Int) (len : Nat) (hl : (len : Int) < 2147483648) : implIndex i len = normIndex i len := by
  unfold implIndex
  split
  · rw [normIndex, if_neg (by omega), if_neg (by omega)]
  · exact dyn_index_checked_i32 i len hl (by omega) (by omega)

/-- an index is never mis-rejected and never mis-accepted by the compile-time check of constant indices -/
theorem static_bounds_exact (i : Int) (n : Nat) : staticIndex i n = normIndex i n := staticIndex_eq_normIndex i n

/-- the valid results are in bounds: the element touched lies inside the sequence -/
theorem index_in_bounds (i : Int) (len : Nat) (j : Nat) (h : normIndex i len = some j) : j < len :=
  ((normIndex_eq_some i len j).mp h).1

/-- the behaviour before the repair (F13, fixed in /repo): truncation made 2^32 select element 0 -/
theorem old_wide_index_witness : implIndexTruncating 4294967296 3 = some 0 ∧ normIndex 4294967296 3 = none ∧ implIndex 4294967296 3 = none := by decide

-- non-vacuity
example : implIndex (-1) 3 = some 2 ∧ implIndex 3 3 = none ∧ implIndex (-4) 3 = none ∧ implIndex 0 3 = some 0 := by decide

end FerretVerif.C08
