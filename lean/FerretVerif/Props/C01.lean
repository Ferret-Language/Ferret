/-
  Props/C01.lean — C01: what is kernel-checked about "the source program's defined semantics".

  `Core/Eval.lean` is the reference interpreter the native executables are compared with (checks/c01.py).
  The theorems pin down that its operators ARE the semantics the property states: fixed-width two's-complement
  integers wrapping at their declared width, truncating division and remainder, left-to-right evaluation,
  by-value composites and write-through references.  The lowering chain of the compiler itself is not modelled.
-/
import FerretVerif.Proofs.CoreSem
import FerretVerif.Proofs.QbeSem
import FerretVerif.Gen.QbeSel

namespace FerretVerif.C01
open FerretVerif.Core

/-- wrapping lands in the declared range (unsigned / signed two's complement) … -/
theorem wrap_unsigned_range (bits : Nat) (v : Int) :
    0 ≤ wrapInt bits false v ∧ wrapInt bits false v < ((2 ^ bits : Nat) : Int) := wrapInt_unsigned_range bits v
theorem wrap_signed_range {bits : Nat} (h : 1 ≤ bits) (v : Int) :
    -((2 ^ (bits - 1) : Nat) : Int) ≤ wrapInt bits true v ∧ wrapInt bits true v < ((2 ^ (bits - 1) : Nat) : Int) :=
  wrapInt_signed_range h v
/-- … changes the value only by a multiple of 2^bits, and is the UNIQUE such value in range -/
theorem wrap_congruent (bits : Nat) (s : Bool) (v : Int) : (wrapInt bits s v - v) % ((2 ^ bits : Nat) : Int) = 0 :=
  Int.emod_eq_emod_iff_emod_sub_eq_zero.mp (wrapInt_emod bits s v)
theorem wrap_unique {bits : Nat} (h : 1 ≤ bits) (s : Bool) (v r : Int)
    (hr : InRange bits s r) (hc : (r - v) % ((2 ^ bits : Nat) : Int) = 0) : r = wrapInt bits s v :=
  (wrapInt_id_of_in_range h s r hr).symm.trans (wrapInt_congr s (Int.emod_eq_emod_iff_emod_sub_eq_zero.mpr hc))

/-- + - * are the mathematical operation reduced to the declared width -/
theorem arith_wraps (bits : Nat) (s : Bool) (a b : Int) :
    evalIntBin .add bits s a b = pure (.int (wrapInt bits s (a + b))) ∧
    evalIntBin .sub bits s a b = pure (.int (wrapInt bits s (a - b))) ∧
    evalIntBin .mul bits s a b = pure (.int (wrapInt bits s (a * b))) :=
  ⟨add_wraps bits s a b, sub_wraps bits s a b, mul_wraps bits s a b⟩

/-- division truncates toward zero, the remainder takes the sign of the dividend and |rem| < |divisor| -/
theorem div_truncates (bits : Nat) (s : Bool) (a b : Int) (hb : b ≠ 0) :
    evalIntBin .div bits s a b = pure (.int (wrapInt bits s (Int.tdiv a b))) ∧
    evalIntBin .rem bits s a b = pure (.int (wrapInt bits s (Int.tmod a b))) ∧
    Int.tdiv a b * b + Int.tmod a b = a ∧ (Int.tmod a b).natAbs < b.natAbs :=
  ⟨Core.div_truncates bits s a b hb, rem_truncates bits s a b hb, Int.tdiv_mul_add_tmod a b, trem_abs_lt a b hb⟩
theorem rem_sign_of_dividend (a b : Int) : (0 ≤ a → 0 ≤ Int.tmod a b) ∧ (a ≤ 0 → Int.tmod a b ≤ 0) := Core.rem_sign_of_dividend a b
/-- INT_MIN / -1 wraps to INT_MIN (the compiled code traps instead: known finding, probe min-div-minus-one) -/
theorem min_div_minus_one : wrapInt 32 true (Int.tdiv (-2147483648) (-1)) = -2147483648 := by decide

/-- comparisons are the order of the (already wrapped) values: signedness lives in the value -/
theorem cmp_is_order (bits : Nat) (s : Bool) (a b : Int) :
    evalIntBin .lt bits s a b = pure (.bool (decide (a < b))) ∧
    evalIntBin .le bits s a b = pure (.bool (decide (a ≤ b))) :=
  have ⟨hlt, hle, _⟩ := Core.cmp_is_order bits s a b
  ⟨hlt, hle⟩

/-- LEFT-TO-RIGHT: a binary expression evaluates its left operand first, then the right one in the state the
    left one left behind; if the left one aborts, the right one is never evaluated -/
theorem eval_left_to_right (ctx : Ctx) (fuel : Nat) (env : Env) (op : BinOp) (t : Ty) (a b : Expr) :
    evalE ctx (fuel + 1) env (.bin op t a b) = (do
      let va ← derefVal 8 (← evalE ctx fuel env a)
      let vb ← derefVal 8 (← evalE ctx fuel env b)
      combineBin op t va vb) := evalE_bin ctx fuel env op t a b
theorem eval_left_abort_skips_right (ctx : Ctx) (fuel : Nat) (env : Env) (op : BinOp) (t : Ty) (a b : Expr)
    (s s' : St) (x : Abort) (h : (evalE ctx fuel env a).run s = (.error x, s')) :
    (evalE ctx (fuel + 1) env (.bin op t a b)).run s = (.error x, s') := by
  rw [evalE_bin]; exact run_bind_error h
/-- arguments are evaluated in list order -/
theorem args_left_to_right (ctx : Ctx) (fuel : Nat) (env : Env) (a : Expr) (as : List Expr) :
    evalArgs ctx (fuel + 1) env (a :: as) = (do
      let v ← evalE ctx fuel env a
      let vs ← evalArgs ctx fuel env as
      pure (v :: vs)) := evalArgs_cons ctx fuel env a as

/-- BY-VALUE composites: after a successful write at a path, reading that path gives the written value and any
    path that diverges from it (another field / another index, at any depth) is unchanged -/
theorem composite_write_then_read {v : Val} {p : List Seg} {nv v' : Val} {s s' : St}
    (h : (setPath v p nv).run s = (.ok v', s')) (t : St) : (getPath v' p).run t = (.ok nv, t) := by
  rw [getPath_setPathP_same (setPath_run_ok h), run_pure]
theorem composite_write_frames_others {v : Val} (pre : List Seg) {s1 s2 : Seg} {p q : List Seg} {nv v' : Val}
    {s s' : St} (h : (setPath v (pre ++ s1 :: p) nv).run s = (.ok v', s')) (hne : s1 ≠ s2) (t : St) :
    (getPath v' (pre ++ s2 :: q)).run t = (getPath v (pre ++ s2 :: q)).run t := getPath_setPath_disjoint pre h hne t
/-- variables are independent cells … -/
theorem write_other_cell_unchanged {n m : Nat} {p q : List Seg} {nv : Val} {s s' : St}
    (h : (writeLoc ⟨.cell n, p⟩ nv).run s = (.ok (), s')) (hne : m ≠ n) :
    (readLoc ⟨.cell m, q⟩).run s' = (((readLoc ⟨.cell m, q⟩).run s).1, s') :=
  readLoc_writeLoc_other_base h fun e => hne (by cases e; rfl)
/-- … and a reference (a location) WRITES THROUGH: what was written at the referent is what the reference reads -/
theorem ref_write_through {l : Loc} {nv : Val} {s s' : St} (k : Nat)
    (h : (writeLoc l nv).run s = (.ok (), s')) (hnv : ∀ l', nv ≠ .ref l') :
    (derefVal (k + 1) (.ref l)).run s' = (.ok nv, s') := by
  rw [derefVal, run_bind_ok (readLoc_writeLoc_same h), derefVal_of_not_ref k hnv, run_pure]

-- concrete instances
example : wrapInt 32 true (2147483647 + 1) = -2147483648 ∧ wrapInt 8 false (200 + 100) = 44 ∧ wrapInt 8 true 300 = 44 := by decide

/-! ### instruction selection: the regenerated table `Gen.qbeSel`

`lib/qbesel.py` compiles, with the compiler of the current tree, one function per (operator, integer type) and per
(source type, target type) cast, and writes the IL the emitter produced for it into `Gen/QbeSel.lean`.  The theorems below are
re-checked against that table on every run: every row has a shape for which `Proofs/QbeSem.lean` proves, for ALL operand values
of the type, that the sequence computes — in the QBE semantics of `Model/QbeSem.lean`, on canonical (sign- or zero-extended)
temporaries — the canonical temporary of the source-level result (wrapping at the declared width, truncating division,
value order for comparisons, wrap-to-target for casts). -/
section Selection
open FerretVerif.QbeSem

theorem sel_table_known_shapes : ∀ r ∈ Gen.qbeSel, rowOk r = true := by decide +kernel

theorem sel_table_well_formed : ∀ r ∈ Gen.qbeSel, r.src ∈ legalTys ∧ r.dst ∈ legalTys ∧ (r.kind ≠ .cast → r.dst = r.src) := by decide +kernel

def hasRow (k : Kind) (op : String) (s d : QbeSem.Ty) : Bool := Gen.qbeSel.any fun r => r.kind == k && r.op == op && r.src == s && r.dst == d

theorem sel_table_complete :
    (∀ t ∈ legalTys, ∀ op ∈ ["add", "sub", "mul", "div", "rem"], hasRow .bin op t t = true) ∧
    (∀ t ∈ legalTys, ∀ op ∈ cmpOps, hasRow .cmp op t t = true) ∧
    (∀ t ∈ signedTys, hasRow .neg "neg" t t = true) ∧
    (∀ s ∈ legalTys, ∀ d ∈ legalTys, s ≠ d → hasRow .cast "cast" s d = true) := by decide +kernel

theorem sel_table_correct (r : Row) (hr : r ∈ Gen.qbeSel) (args : List Int) (hin : ∀ a ∈ args, r.src.inRange a) (v : Nat)
    (hv : rowSpec r args = some v) : exec (args.map (canon r.src)) [] r.seq = some v :=
  have wf := sel_table_well_formed r hr
  row_correct r (sel_table_known_shapes r hr) wf.1 wf.2.1 wf.2.2 args hin v hv

/-- the same statement read at the level of values, for the binary operators: on in-range operands the selected sequence
    yields the canonical temporary of `specBin` (which IS the reference semantics' operator, see `spec_is_reference`) -/
theorem sel_binary_correct (r : Row) (hr : r ∈ Gen.qbeSel) (hk : r.kind = .bin) (a b w : Int)
    (ha : r.src.inRange a) (hb : r.src.inRange b) (hw : specBin r.op r.src a b = some w)
    (hno : ¬ ((r.op = "div" ∨ r.op = "rem") ∧ r.src.signed = true ∧ overflows r.src a b)) :
    exec [canon r.src a, canon r.src b] [] r.seq = some (canon r.src w) := by
  have := sel_table_correct r hr [a, b] (by intro x hx; simp at hx; rcases hx with rfl | rfl <;> assumption) (canon r.src w)
    (by simp only [rowSpec, hk, if_neg hno, hw, Option.map_some])
  simpa using this

theorem spec_wrap_is_reference (bits : Nat) (s : Bool) (v : Int) : (⟨bits, s⟩ : QbeSem.Ty).wrap v = wrapInt bits s v := rfl

/-- the specification used for the table is the reference interpreter's operator: `specBin` wraps the same mathematical
    result with the same wrap as `evalIntBin` (compare `arith_wraps`, `div_truncates` above) -/
theorem spec_is_reference (bits : Nat) (s : Bool) (a b : Int) (hb : b ≠ 0) :
    specBin "add" ⟨bits, s⟩ a b = some (wrapInt bits s (a + b)) ∧
    specBin "sub" ⟨bits, s⟩ a b = some (wrapInt bits s (a - b)) ∧
    specBin "mul" ⟨bits, s⟩ a b = some (wrapInt bits s (a * b)) ∧
    specBin "div" ⟨bits, s⟩ a b = some (wrapInt bits s (Int.tdiv a b)) ∧
    specBin "rem" ⟨bits, s⟩ a b = some (wrapInt bits s (Int.tmod a b)) :=
  ⟨rfl, rfl, rfl, if_neg hb, if_neg hb⟩

/-- non-vacuity: i8 127 + 1 must come out as the canonical temporary of -128 -/
example : rowSpec ⟨.bin, "add", ⟨8, true⟩, ⟨8, true⟩, []⟩ [127, 1] = some (canon ⟨8, true⟩ (-128)) := by decide

/-- sharpness: the bare 32-bit `add` without the re-normalising `shl`/`sar` pair leaves 128 in the temporary -/
theorem unnormalised_add_is_wrong :
    exec [canon ⟨8, true⟩ 127, canon ⟨8, true⟩ 1] [] [⟨.w, "add", .param 0, .param 1⟩] ≠ some (canon ⟨8, true⟩ (-128)) := by decide

/-- the excluded point: the machine's signed division has no result for MIN / -1 at the operation's width -/
theorem min_div_minus_one_traps :
    exec [canon ⟨32, true⟩ (-2147483648), canon ⟨32, true⟩ (-1)] [] [⟨.w, "div", .param 0, .param 1⟩] = none := by decide

/-! #### values that go through memory (struct fields, array elements, copies)

`Gen.qbeMem`: for each integer type, the store instruction the current compiler emits for a parameter stored into a struct field and
the load instruction whose result it returns for reading that field back. -/

theorem mem_table_known_shapes : ∀ r ∈ Gen.qbeMem, memRowOk r = true := by decide +kernel

theorem mem_table_well_formed : ∀ r ∈ Gen.qbeMem, r.ty ∈ legalTys := by decide +kernel

theorem mem_table_complete : ∀ t ∈ legalTys, Gen.qbeMem.any (fun r => r.ty == t) = true := by decide +kernel

/-- for every row of the regenerated table and every in-range value: store, then load, gives back the canonical temporary -/
theorem mem_table_correct (r : MemRow) (hr : r ∈ Gen.qbeMem) (v : Int) (hv : r.ty.inRange v) :
    (memStore r.store (canon r.ty v)).bind (memLoad r.cls r.load) = some (canon r.ty v) := by
  have hok := mem_table_known_shapes r hr
  simp only [memRowOk, Bool.and_eq_true, beq_iff_eq] at hok
  obtain ⟨h1, h2⟩ := hok
  have := mem_roundtrip r.ty (mem_table_well_formed r hr) v hv
  rw [← h1] at this
  rw [h2]; exact this

end Selection

end FerretVerif.C01
