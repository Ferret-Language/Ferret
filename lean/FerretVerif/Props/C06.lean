/-
  Props/C06.lean — C06: immutable bindings cannot be modified.

  About Model/Mut.lean (transcription of the mutability checks after the fixes F4/F25 and the repair of references
  held in fields and elements), tied to the type checker on every run by checks/c06.py (exhaustive product
  roots × paths × forms × contexts compiled with `ferret -t`).  A path lists the segments of a place outermost first
  (`Chain.ofPath`): `rs[0].X` is the root `rs` with the path `[.fld, .idx]`.
-/
import FerretVerif.Model.Mut

namespace FerretVerif.C06
open FerretVerif.Mut

theorem root_ofPath (r : Root) (p : List Seg) : (Chain.ofPath r p).root = r := by
  induction p with
  | nil => rfl
  | cons s p ih => cases s <;> exact ih

theorem borrowable_ofPath (r : Root) (p : List Seg) : (Chain.ofPath r p).borrowable = !r.constOrReadonly := by
  induction p with
  | nil => rfl
  | cons s p ih => cases s <;> exact ih

/-- the walk of `findImmutableRefInChain` plus the callers' own check of the target's type finds an immutable reference
    exactly when the chain goes through one — at the root, at the place itself, or at any step in between -/
theorem immRef_exact (c : Chain) : (c.immRefInChain || c.ty == .imm) = c.throughImm := by
  induction c with
  | ident r =>
    -- an identifier's type is `.imm` only when `immRef` says so already
    show (r.immRef || r.ty == .imm) = r.immRef
    unfold Root.ty
    cases r.immRef <;> cases r.isRef <;> rfl
  | sel t x ih | index t x ih => exact (Bool.or_comm ..).trans (congrArg (t == .imm || ·) ih)
  | paren x ih => exact ih

/-- the references the walk itself reports are among those the chain goes through -/
theorem immRef_sound (c : Chain) : c.immRefInChain = true → c.throughImm = true := by
  intro h; rw [← immRef_exact, h, Bool.true_or]

/-- the type checker's verdict, exactly; the second disjunct is "reference of a reference" -/
theorem implRejects_eq (r : Root) (path : List Seg) (f : Form) :
    implRejects r path f =
      (mustReject r path || (decide (f = .mutBorrow ∨ f = .passMut) && (Chain.ofPath r path).ty == .mut)) := by
  simp only [implRejects, mustReject, checkMutabilityBlocks, root_ofPath, borrowable_ofPath, ← immRef_exact]
  cases f
  case mutBorrow | passMut =>
    -- checkBorrowExpr refuses every reference; an immutable one is refused by `mustReject` already
    generalize (Chain.ofPath r path).ty = t, r.constOrReadonly = a, (Chain.ofPath r path).immRefInChain = i
    cases t <;> cases a <;> cases i <;> decide
  all_goals simp only [reduceCtorEq, or_self, decide_false, Bool.false_and, Bool.or_false, Bool.or_assoc]

/-- C06: every form of mutation on a place reached through an immutable binding — rooted in a const, the index variable of a
    two-variable for loop or a catch error variable, or going through an immutable reference held by a parameter, a receiver,
    a local, a struct field or an array element, at the root, in the middle or at the end of the access path — is rejected,
    for EVERY access path and EVERY mutation form -/
theorem immutable_never_mutated (r : Root) (path : List Seg) (h : mustReject r path = true) (f : Form) :
    implRejects r path f = true := by
  rw [implRejects_eq, h, Bool.true_or]

theorem throughImm_of_immRef (r : Root) (h : r.immRef = true) (path : List Seg) :
    (Chain.ofPath r path).throughImm = true := by
  induction path with
  | nil => exact h
  | cons s p ih => cases s <;> simp [Chain.ofPath, Chain.throughImm, ih]

/-- the special case the property names first: below an immutable root every place is immutable, whatever the path -/
theorem immutable_root_never_mutated (r : Root) (h : r.immutable = true) (path : List Seg) (f : Form) :
    implRejects r path f = true := by
  apply immutable_never_mutated
  rcases Bool.or_eq_true_iff.mp h with h1 | h2
  · rw [mustReject, h1, Bool.true_or]
  · rw [mustReject, throughImm_of_immRef r h2, Bool.or_true]

/-- no mis-rejection: a place that is not reached through an immutable binding is refused only for taking `&'` of something
    that already is a reference ("reference of a reference") -/
theorem mutable_not_rejected (r : Root) (path : List Seg) (h : mustReject r path = false) (f : Form)
    (hr : implRejects r path f = true) : (f = .mutBorrow ∨ f = .passMut) ∧ (Chain.ofPath r path).ty = .mut := by
  rw [implRejects_eq, h, Bool.false_or, Bool.and_eq_true] at hr
  exact ⟨of_decide_eq_true hr.1, eq_of_beq hr.2⟩

/-- the check as originally shipped looked at the root only when the target was a bare identifier:
    a field of a const was assignable (finding F4) -/
def checkMutabilityOld (c : Chain) : Bool :=
  (match c with | .ident r => r.constOrReadonly | _ => false) || c.immRefInChain

theorem old_const_field_witness :
    checkMutabilityOld (Chain.ofPath .constV [.fld]) = false ∧ Root.immutable .constV = true
      ∧ checkMutabilityBlocks (Chain.ofPath .constV [.fld]) = true := by decide

/-- the walk as shipped before the repair of references held in fields / elements looked at the root identifier only:
    `rs[0].X = 9` with `rs: [2]&P` was accepted -/
def immRefRootOnly : Chain → Bool
  | .ident r => r.immRef
  | .sel _ x | .index _ x | .paren x => immRefRootOnly x

theorem old_ref_in_element_witness :
    immRefRootOnly (Chain.ofPath .letV [.fld, .idx .imm]) = false ∧ mustReject .letV [.fld, .idx .imm] = true
      ∧ implRejects .letV [.fld, .idx .imm] .assign = true := by decide

-- non-vacuity: immutable and mutable places exist, with deep paths
example : mustReject .recvRef [.fld, .idx, .paren, .fld] = true ∧ implRejects .recvRef [.fld, .idx, .paren, .fld] .incDec = true := by decide
example : mustReject .letV [.fld, .idx] = false ∧ implRejects .letV [.fld, .idx] .mutBorrow = false := by decide
example : mustReject .letV [.fld .imm] = true ∧ implRejects .letV [.fld .imm] .callMutMethod = true := by decide
example : mustReject .letV [.fld, .fld .mut] = false ∧ implRejects .letV [.fld, .fld .mut] .assign = false := by decide

end FerretVerif.C06
