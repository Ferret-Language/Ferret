/-
  Props/C16.lean — C16: 128/256-bit integer arithmetic is exact modulo 2^N.

  Statements are about Model/Limbs.lean (the transcription of runtime/core/bigint.c), for EVERY
  base B (so for 2^64 and 2^32 limbs alike) and every limb count n (so for 128 and 256 bits alike).
  The model is tied to the C code by the differential check in checks/c16.py.
-/
import FerretVerif.Proofs.LimbsDiv
import FerretVerif.Proofs.LimbsShift
import FerretVerif.Proofs.LimbsText

namespace FerretVerif.C16
open FerretVerif.Limbs

/-- addition: exact sum modulo B^n -/
theorem add_exact (B : Nat) (hB : 0 < B) (a b : List Nat) (h : a.length = b.length) :
    val B (add B a b) = (val B a + val B b) % B ^ a.length := by
  rw [add_eq B hB a b h, val_ofNat]

/-- subtraction: exact difference modulo B^n -/
theorem sub_exact (B : Nat) (hB : 1 < B) (a b : List Nat) (h : a.length = b.length) (ha : Wf B a) (hb : Wf B b) :
    val B (sub B a b) = (val B a + B ^ a.length - val B b) % B ^ a.length := by
  rw [sub_eq B (Nat.lt_of_succ_lt hB) a b h ha hb, val_ofNat]

/-- the subtraction loop as originally shipped loses a borrow: refuted at the scaled-down base 4
    with three limbs ( 0 - (1 + 3·4) over 4^3 ); the same pattern with B = 2^64 is
    `0 - {1, 2^64-1, 0, 0}` on ferret_u256_sub (finding F10, fixed in /repo). -/
theorem sub_old_borrow_witness :
    val 4 (subbOld 4 [0, 0, 0] [1, 3, 0] 0) ≠ (val 4 [0, 0, 0] + 4 ^ 3 - val 4 [1, 3, 0]) % 4 ^ 3 := by decide

/-- two's-complement negation -/
theorem neg_exact (B : Nat) (hB : 1 < B) (v : List Nat) (hv : Wf B v) :
    val B (neg B v) = (B ^ v.length - val B v) % B ^ v.length := by
  rw [neg_eq B hB v hv, val_ofNat]

/-- multiplication: exact product modulo B^n -/
theorem mul_exact (B : Nat) (hB : 0 < B) (a b : List Nat) (h : a.length = b.length) :
    val B (mul B a b) = (val B a * val B b) % B ^ a.length := by
  rw [mul_eq B hB a b h, val_ofNat]

/-- unsigned comparison decides the order of the values -/
theorem cmp_unsigned_exact (B : Nat) (a b : List Nat) (h : a.length = b.length) (ha : Wf B a) (hb : Wf B b) :
    cmpU a b = compare (val B a) (val B b) := cmpU_eq B a b h ha hb

/-- text → limbs, one digit step: v := v·base + digit (mod B^n) -/
theorem parse_step_exact (B base : Nat) (hB : 0 < B) (v : List Nat) (d : Nat) :
    val B (mulAddSmall B base v d) = (val B v * base + d) % B ^ v.length := mulAddSmall_spec B base hB v d

/-- limbs → text, one digit step: division by a small divisor is exact -/
theorem decimal_step_exact (B d : Nat) (hd : 0 < d) (v : List Nat) :
    val B (divSmall B d v).1 * d + (divSmall B d v).2 = val B v ∧ (divSmall B d v).2 < d := divSmall_spec B d hd v

/-- unsigned long division (bit-serial): exact quotient and remainder -/
theorem divmod_unsigned_exact (w : Nat) (hw : 0 < w) (numer denom : List Nat) (hl : numer.length = denom.length)
    (hn : Wf (2 ^ w) numer) (hd : Wf (2 ^ w) denom) (hd0 : val (2 ^ w) denom ≠ 0) :
    let r := divModU w numer denom
    r.1 = true ∧ val (2 ^ w) r.2.1 = val (2 ^ w) numer / val (2 ^ w) denom
      ∧ val (2 ^ w) r.2.2 = val (2 ^ w) numer % val (2 ^ w) denom := by
  intro r
  exact ⟨by rw [show r = _ from divModU_eq w hw numer denom hl hn hd hd0], divUw_val w hw numer denom hl hn hd hd0,
    modUw_val w hw numer denom hl hn hd hd0⟩

/-- signed comparison decides the order of the two's-complement values -/
theorem cmp_signed_exact (B : Nat) (a b : List Nat) (hl : a.length = b.length) (ha : Wf B a) (hb : Wf B b) :
    cmpS B a b = compare (toInt B a) (toInt B b) := cmpS_eq B a b hl ha hb

/-- signed multiplication: the two's-complement product modulo 2^(n·w) -/
theorem mul_signed_exact (w : Nat) (hw : 0 < w) (a b : List Nat) (hl : a.length = b.length)
    (ha : Wf (2 ^ w) a) (hb : Wf (2 ^ w) b) :
    val (2 ^ w) (mulS (2 ^ w) a b)
      = ((toInt (2 ^ w) a * toInt (2 ^ w) b) % (((2 ^ w) ^ a.length : Nat) : Int)).toNat := by
  rw [mulS_eq _ (Nat.one_lt_two_pow (by omega)) a b hl ha hb, val_ofInt _ (Nat.two_pow_pos w)]

/-- signed division truncates toward zero (MIN / -1 wraps), modulo 2^(n·w). `hb0` is not used: `Limbs.divS_eq`. -/
theorem div_signed_truncates (w : Nat) (hw : 0 < w) (a b : List Nat) (hl : a.length = b.length)
    (ha : Wf (2 ^ w) a) (hb : Wf (2 ^ w) b) (hb0 : toInt (2 ^ w) b ≠ 0) :
    val (2 ^ w) (divS w a b)
      = ((Int.tdiv (toInt (2 ^ w) a) (toInt (2 ^ w) b)) % (((2 ^ w) ^ a.length : Nat) : Int)).toNat := by
  rw [divS_eq w hw a b hl ha hb, val_ofInt _ (Nat.two_pow_pos w)]

/-- signed remainder has the sign of the dividend; it is always exact -/
theorem mod_signed_exact (w : Nat) (hw : 0 < w) (a b : List Nat) (hl : a.length = b.length)
    (ha : Wf (2 ^ w) a) (hb : Wf (2 ^ w) b) (hb0 : toInt (2 ^ w) b ≠ 0) :
    toInt (2 ^ w) (modS w a b) = Int.tmod (toInt (2 ^ w) a) (toInt (2 ^ w) b) := by
  rw [modS_eq w hw a b hl ha hb hb0, toInt_ofInt (two_pow_even w hw) (Nat.two_pow_pos _)
    (tmod_bounds _ (toInt_bounds (two_pow_even w hw) (Nat.two_pow_pos _) ha))]

/-- exponentiation by squaring: base^e modulo 2^(n·w), for every exponent value -/
theorem pow_unsigned_exact (w : Nat) (hw : 0 < w) (base e : List Nat) (hbw : Wf (2 ^ w) base) (hew : Wf (2 ^ w) e) :
    val (2 ^ w) (powU w base e) = (val (2 ^ w) base ^ val (2 ^ w) e) % (2 ^ w) ^ base.length := by
  rw [powU_eq w hw base e hbw hew, val_ofNat]

theorem pow_signed_exact (w : Nat) (hw : 0 < w) (base e : List Nat) (hbw : Wf (2 ^ w) base) (hew : Wf (2 ^ w) e) :
    val (2 ^ w) (powS w base e) =
      if isNeg (2 ^ w) e then 0 else (val (2 ^ w) base ^ val (2 ^ w) e) % (2 ^ w) ^ base.length := by
  cases hneg : isNeg (2 ^ w) e with
  | true => rw [powS, hneg, if_pos rfl, if_pos rfl, val_zero]
  | false => rw [powS_eq w hw base e hbw hew hneg, val_ofNat, if_neg Bool.false_ne_true]

/-- shifts, for every shift count (≤ 0, inside, ≥ width) -/
theorem shl_exact (w : Nat) (hw : 0 < w) (a : List Nat) (ha : Wf (2 ^ w) a) (s : Int) :
    val (2 ^ w) (shl w a s) =
      if s ≤ 0 then val (2 ^ w) a else (val (2 ^ w) a * 2 ^ s.toNat) % (2 ^ w) ^ a.length := by
  rw [shl_eq w hw a ha s, val_ofNat]
  split
  · next hs => rw [Int.toNat_of_nonpos hs, Nat.pow_zero, Nat.mul_one, Nat.mod_eq_of_lt (val_lt ha)]
  · rfl

theorem shr_exact (w : Nat) (hw : 0 < w) (a : List Nat) (ha : Wf (2 ^ w) a) (s : Int) :
    val (2 ^ w) (shr w a s) = if s ≤ 0 then val (2 ^ w) a else val (2 ^ w) a / 2 ^ s.toNat := by
  rw [shr_eq w hw a ha s, val_ofNat_of_lt (Nat.lt_of_le_of_lt (Nat.div_le_self _ _) (val_lt ha))]
  split
  · next hs => rw [Int.toNat_of_nonpos hs, Nat.pow_zero, Nat.div_one]
  · rfl

/-- arithmetic right shift is floor division of the signed value (0 ≤ s; a negative count on a negative
    operand is undefined behaviour in the C code and outside the property). `hs` is not used: `Limbs.sar_toInt`. -/
theorem sar_exact (w : Nat) (hw : 0 < w) (a : List Nat) (ha : Wf (2 ^ w) a) (s : Int) (hs : 0 ≤ s) :
    toInt (2 ^ w) (sar w a s) = toInt (2 ^ w) a / 2 ^ s.toNat := sar_toInt w hw a ha s

/-- decimal text round trip, unsigned and signed: parsing the printed text gives the limbs back -/
theorem decimal_roundtrip_unsigned (B n : Nat) (hB : 0 < B) (v : List Nat) (hv : Wf B v) (hn : v.length = n)
    (h80 : val B v < 10 ^ 80) : fromString B n false (toDecimal B v).toList = v :=
  fromString_toDecimal B n false hB v hv hn h80

theorem decimal_roundtrip_signed (B n : Nat) (hB : 1 < B) (v : List Nat) (hv : Wf B v) (hn : v.length = n)
    (hw : B ^ n ≤ 10 ^ 80) : fromString B n true (toStringS B true v).toList = v := fromString_toStringS_signed B n hB v hv hn hw

/-- the printed digits are the decimal digits of the value -/
theorem decimal_digits_value (B : Nat) (hB : 0 < B) (fuel : Nat) (work : List Nat) (h : val B work < 10 ^ fuel) :
    (toDecimalDigits B fuel work []).foldl (fun a d => 10 * a + d) 0 = val B work := by
  have e : (fun a d => 10 * a + d) = (fun (a d : Nat) => a * 10 + d) := by funext a d; omega
  rw [toDecimalDigits_eq B hB fuel work [] h, List.append_nil, e]
  exact horner_digits10 _

-- the 80-digit bound of the C buffer is met by 256-bit values
example : (2 ^ 64) ^ 4 ≤ 10 ^ 80 := by decide

-- non-vacuity: concrete 3-limb operands at base 2^64 satisfy the hypotheses (and exercise carry/borrow chains)
example : Wf (2 ^ 64) [0, 0, 0] ∧ Wf (2 ^ 64) [1, 2 ^ 64 - 1, 0] ∧ [0, 0, 0].length = [1, 2 ^ 64 - 1, 0].length := by
  unfold Wf; decide
example : val (2 ^ 64) (sub (2 ^ 64) [0, 0, 0] [1, 2 ^ 64 - 1, 0]) = 2 ^ 192 - (1 + (2 ^ 64 - 1) * 2 ^ 64) := by decide +kernel

end FerretVerif.C16
